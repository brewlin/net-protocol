import NetProto.Props.TcpFrame
import NetProto.Props.TcpReach
/-! Every handler of a connected endpoint does nothing or runs a few leaf operations one after another, so a relation
between the endpoint before and the endpoint and output after that holds of doing nothing, of sequencing and of every
leaf holds of every handler.

For an invariant `P` that is inductive over every leaf on its own: the bundle `SegLeaves Q (fun e r => P e → P r.1)` with
`toSteps := Steps.inv P`, then `SegLeaves.epInvQ` (`EpInv.ofQ`, `run_all` / `run_allQ`; `C02.timer_inv`, `C05.window_inv`); a
leaf that does not end in `sendData` is handled as in `C05.sndPrepare_inv`.  With standing assumptions, or a
fact about everything emitted: a relation `R` of its own, the assumptions phrased over what no step changes so that
they carry backwards over a step (`C01.Res`, `Res.keeps`); inductive only together with another: conjoined with it, its
leaves built on the other's (`C04.Res4`, `Res4.of_res`).  `Q`: what an invariant needs of the incoming segments
(`C04.AckOk`); `OpOk Q` threads it through the history. -/
namespace Props.TcpShape
open Model.Tcp

/-- a relation between an endpoint and what a handler made of it that holds of doing nothing and of sequencing -/
structure Steps (R : Ep → Ep × List OutSeg → Prop) : Prop where
  nil : ∀ e, R e (e, [])
  seq : ∀ {e e₁ o₁ r}, R e (e₁, o₁) → R e₁ r → R e (r.1, o₁ ++ r.2)

theorem Steps.inv (P : Ep → Prop) : Steps (fun e r => P e → P r.1) := ⟨fun _ h => h, fun h₁ h₂ h => h₂ (h₁ h)⟩

/-- ... and of the leaves of the application calls, the timer and the end of a wake-up.  A leaf is as large as it has to
be for an invariant to hold again after it (the timeout: `rtoState` with the `sendData` behind it); the hypotheses
are what the guards have established where it runs. -/
structure Leaves (R : Ep → Ep × List OutSeg → Prop) : Prop extends Steps R where
  send : ∀ e, R e (sendData e)
  ack : ∀ e, R e ((sendAck e).1, [(sendAck e).2])
  close : ∀ e, R e (closeIfDone e, [])
  fin : ∀ e, e.state = .connected → e.sndClosed = false → R e (queueFin e, [])
  shut : ∀ e : Ep, R e ({ e with snd := { e.snd with closed := true } }, [])
  rto : ∀ e, e.done = false → e.snd.timerEnabled = true → R e (sendData { e with snd := rtoState e.snd })

/-- ... and of the leaves of the segment loop; `Q` is what is known of an incoming segment -/
structure SegLeaves (Q : InSeg → Prop) (R : Ep → Ep × List OutSeg → Prop) : Prop extends Leaves R where
  rcv : ∀ e seg, Q seg → R e (rcvHandleSegment e seg)
  snd : ∀ e seg w ts, Q seg → R e (sndHandleSegment e seg w ts)
  reset : ∀ e : Ep, R e ({ e with state := .error, hardError := "connection-reset-by-peer", done := true }, [])

variable {Q : InSeg → Prop} {R : Ep → Ep × List OutSeg → Prop}

/-- `seq` for an output that is `o₁ ++ r.2` only up to `List.append_nil` or associativity: the equation is asked for -/
theorem Steps.seq' (S : Steps R) {e e₁ : Ep} {o₁ : List OutSeg} {r : Ep × List OutSeg} {o : List OutSeg}
    (h₁ : R e (e₁, o₁)) (h₂ : R e₁ r) (ho : o = o₁ ++ r.2) : R e (r.1, o) := ho ▸ S.seq h₁ h₂

/-- the wake-up loop from one wake-up, for what the end of a wake-up establishes rather than keeps (`C03.Quiet`) -/
theorem Steps.handleSegments_of_wake (S : Steps R)
    (wake : ∀ e l, (∀ s ∈ l, Q s) → R e (finishBatch (handleBatch e l).1 (handleBatch e l).2.1 (handleBatch e l).2.2))
    (e : Ep) (l : List InSeg) (hl : ∀ s ∈ l, Q s) : R e (handleSegments e l) := by
  unfold handleSegments
  generalize l.length + 1 = fuel
  induction fuel generalizing e l with
  | zero => exact S.nil e
  | succ k ih =>
    have hw := wake e (l.take maxSegmentsPerWake) fun s hs => hl s (List.mem_of_mem_take hs)
    unfold handleSegmentsLoop
    split
    · exact S.nil e
    · split
      · exact hw
      · exact S.seq hw (ih _ _ fun s hs => hl s (List.mem_of_mem_drop hs))

theorem SegLeaves.handleCore (L : SegLeaves Q R) (e : Ep) (seg : InSeg) (hq : Q seg) :
    R e ((handleCore e seg).1, (handleCore e seg).2.1) := by
  unfold Model.Tcp.handleCore
  split
  · exact L.nil e
  · split
    · split
      · exact L.nil e
      · exact L.seq (L.rcv e seg hq) (L.snd _ seg _ _ hq)
    · exact L.nil e

theorem SegLeaves.handleBatch (L : SegLeaves Q R) (e : Ep) (l : List InSeg) (hl : ∀ s ∈ l, Q s) :
    R e ((handleBatch e l).1, (handleBatch e l).2.1) := by
  induction l generalizing e with
  | nil => exact L.nil e
  | cons s rest ih =>
    have hc := L.handleCore e s (hl s List.mem_cons_self)
    unfold Model.Tcp.handleBatch
    simp only
    split
    · exact hc
    · exact L.seq hc (ih _ fun x hx => hl x (List.mem_cons_of_mem _ hx))

theorem SegLeaves.finishBatch (L : SegLeaves Q R) (e₀ e : Ep) (out : List OutSeg) (rst : Bool) (h : R e₀ (e, out)) :
    R e₀ (finishBatch e out rst) := by
  unfold Model.Tcp.finishBatch
  split
  · exact L.seq' h (L.reset e) (List.append_nil _).symm
  · split
    · exact L.seq' h (L.seq (L.ack e) (L.close _)) (by simp)
    · exact L.seq' h (L.close e) (List.append_nil _).symm

theorem SegLeaves.handleSegments (L : SegLeaves Q R) (e : Ep) (l : List InSeg) (hl : ∀ s ∈ l, Q s) :
    R e (handleSegments e l) :=
  L.handleSegments_of_wake (fun e l hl => L.finishBatch e _ _ _ (L.handleBatch e l hl)) e l hl

/-- The queueing of a write and the handing over of a read are no leaves: they lengthen the accepted stream and the
bytes read, and a relation that speaks of either holds of every leaf but not of that step. -/
theorem Leaves.appWrite (L : Leaves R)
    (write : ∀ e v, e.state = .connected → e.sndClosed = false → v ≠ [] → e.sndBufUsed + v.length ≤ e.sndBufSize →
      R e (queueWrite e v, []))
    (e : Ep) (d : List Nat) : R e ((appWrite e d).1, (appWrite e d).2.2) := by
  rcases TcpFrame.appWrite_eq e d with ⟨r, h⟩ | ⟨v, hs, hc, hv, hb, h⟩ <;> rw [h]
  · exact L.nil e
  · exact L.seq' (write e v hs hc hv hb) (L.send _) (List.nil_append _).symm

theorem Leaves.appRead (L : Leaves R) (read : ∀ e v rest, e.rcvList = v :: rest → R e (popRead e v rest, []))
    (e : Ep) : R e ((appRead e).1, (appRead e).2.2) := by
  rcases TcpFrame.appRead_eq e with ⟨m, h⟩ | ⟨v, rest, hl, h | h⟩ <;> rw [h]
  · exact L.nil e
  · exact read e v rest hl
  · exact L.seq' (read e v rest hl) (L.ack _) (List.nil_append _).symm

theorem Leaves.appShutdownWrite (L : Leaves R) (e : Ep) : R e (appShutdownWrite e) := by
  rcases TcpFrame.appShutdownWrite_eq e with h | ⟨hs, hc, h⟩ <;> rw [h]
  · exact L.nil e
  · exact L.seq' (L.seq (L.fin e hs hc) (L.send _)) (L.seq (L.shut _) (L.close _)) (by simp)

theorem Leaves.timerEvent (L : Leaves R) (e : Ep) : R e (timerEvent e) := by
  rcases TcpFrame.timerEvent_eq e with ⟨_, h⟩ | ⟨hd, ht, h⟩ <;> rw [h]
  · exact L.nil e
  · exact L.rto e hd ht

theorem SegLeaves.epInvQ {P : Ep → Prop} (L : SegLeaves Q (fun e r => P e → P r.1))
    (write : ∀ e v, e.state = .connected → e.sndClosed = false → v ≠ [] → e.sndBufUsed + v.length ≤ e.sndBufSize →
      P e → P (queueWrite e v))
    (read : ∀ e v rest, e.rcvList = v :: rest → P e → P (popRead e v rest))
    (fresh : ∀ iss irs sndWnd mss sws rcvWnd rws mtu rb sb ts rts sp,
      P (newEp iss irs sndWnd mss sws rcvWnd rws mtu rb sb ts rts sp))
    (dflt : P default) (failed : ∀ err, P (failedEp err)) : TcpReachQ.EpInvQ Q P :=
  ⟨fresh, dflt, failed, fun e l hl => L.handleSegments e l hl, L.appWrite write, L.appRead read, L.appShutdownWrite, L.timerEvent⟩

end Props.TcpShape
