import NetProto.Props.TcpLemmas
import NetProto.Props.TcpShape
import NetProto.Generated.Shapes
/-! C01, sending direction: every data segment the endpoint transmits carries, under its sequence number, exactly the
bytes `Write` accepted at the stream offset that number names (`emitted_data_is_the_written_stream`), from an invariant
kept by every handler (`send_inv`) and so in every reachable state (`sender_invariant_reachable`).

The model carries ghosts it never reads: `Snd.gW` all bytes accepted, `gIss1` the sequence number of offset 0, `gUna` /
`gNxt` the unbounded offsets `sndUna` / `sndNxt` stand for, `WSeg.gOff` the offset of an entry's first byte.  The
invariant: the write list is a contiguous cover of the stream from the first unacknowledged byte; entries hold the
stream's bytes at their offsets; those before the frontier `gNxt` have their sequence numbers.  Standing assumptions:
the stream is shorter than 2^31 bytes, the segment size is not zero.

`Core`: the invariant but for the write pointer; `LF`: its clauses about the list alone; `eOk`: about one entry;
`cs`, `ck`: the fields `Core` reads, without / with the write list.
`SInv` = `Core` + write pointer; `SE` = `SInv` + no FIN queued before `Shutdown(write)`; `SEB` = `SE` + the assumptions;
`LI e i` = `SEB` with the loop's index `i` for `writeNext`; `Res e r`: what a step with result `r` does to `SEB`. -/
namespace Props.C01
open Model.Tcp Props.TcpLemmas Props.TcpFrame Props.TcpShape

/-- splitting an entry keeps the bytes and their order -/
theorem splitAt_bytes (pre post : List WSeg) (old seg : WSeg) (a : Nat) :
    (((splitAt (pre ++ old :: post) pre.length seg a).1).map (·.data)).flatten = ((pre ++ seg :: post).map (·.data)).flatten := by
  rw [(splitAt_decomp pre post old seg a).1]
  split
  · simp only [List.map_append, List.map_cons, List.flatten_append, List.flatten_cons]
    rw [← List.append_assoc (seg.data.take a), List.take_append_drop]
  · rfl

/-- a partial acknowledgement trims the head of the write list and advances its sequence number by as much: every
remaining byte keeps its sequence number (the model follows the repaired code, F01) -/
theorem partial_ack_keeps_positions (s : Snd) (seg : WSeg) (rest : List WSeg) (k fuel : Nat)
    (hwl : s.writeList = seg :: rest) (hk : 0 < k) (hlt : k < seg.logicalLen) :
    (ackLoop (fuel + 1) s k).writeList = { seg with data := seg.data.drop k, seq := addS seg.seq k, gOff := seg.gOff + k } :: rest := by
  unfold ackLoop
  have : (k == 0) = false := by simp; omega
  simp only [this, Bool.false_eq_true, ↓reduceIte, hwl]
  simp [hlt]

/-- the statement of the trim in the source, regenerated on every run (`v6` is `ackLeft`, `v8` is `datalen`) -/
theorem trim_statements_pinned :
    Gen.Shapes.tcp_trim_ack = ["v6 := v5", "for v6 > 0", "if v8 > v6", "v1.data.TrimFront(int(v6))", "v1.sequenceNumber.UpdateForward(v6)", "v6 -= v8"] := rfl

/-- the write-list entries are contiguous pieces of the byte stream from offset `o` up to offset `e`; an entry
without data (the FIN) can only be the last one -/
def contig : Nat → List WSeg → Nat → Prop
  | o, [], e => o = e
  | o, x :: t, e => x.gOff = o ∧ (x.data = [] → t = []) ∧ contig (o + x.data.length) t e

/-- the entry's bytes are the bytes of the accepted stream `W` at its offset, and once it has a sequence number
it is the one of that offset -/
def entryOk (W : List Nat) (iss1 : Nat) (x : WSeg) : Prop :=
  x.data = (W.drop x.gOff).take x.data.length ∧ (x.flags ≠ 0 → x.seq = addS iss1 x.gOff)

/-- an entry is unassigned, or a data segment (ACK|PSH), or the FIN (ACK|FIN, no data) -/
def flagsOk (x : WSeg) : Prop :=
  x.flags = 0 ∨ (x.data ≠ [] ∧ x.flags = fAck ||| fPsh) ∨ (x.data = [] ∧ x.flags = fAck ||| fFin)

/-- the stream offset at which the write list begins (the end of the stream if it is empty) -/
def headOff (s : Snd) : Nat := match s.writeList with | [] => s.gW.length | x :: _ => x.gOff

/-- stream offset of the write-list entry at index `i` (the end of the stream past the last entry) -/
def offAt (s : Snd) (i : Nat) : Nat := match s.writeList[i]? with | some x => x.gOff | none => s.gW.length

/-- `una`: `sndUna` is an acknowledgement number as the peer wrote it, which the model does not reduce, hence `%`.
`ord`: the `+ 1` is the FIN's unit of sequence space (as in the bound `gW.length + 1 < 2^31`).  `hd`, `emp`: the
unacknowledged part begins at the first entry; the timeout and the cumulative-ACK loop need them. -/
structure Core (s : Snd) : Prop where
  cont : contig (headOff s) s.writeList s.gW.length
  ents : ∀ x ∈ s.writeList, entryOk s.gW s.gIss1 x
  fl : ∀ x ∈ s.writeList, flagsOk x
  una : s.sndUna % 4294967296 = addS s.gIss1 s.gUna
  nxt : s.sndNxt = addS s.gIss1 s.gNxt
  ord : s.gUna ≤ s.gNxt ∧ s.gNxt ≤ s.gW.length + 1
  hd : s.writeList ≠ [] → headOff s = s.gUna
  emp : s.writeList = [] → s.gW.length ≤ s.gUna
  front : ∀ x ∈ s.writeList, x.gOff < s.gNxt → x.flags ≠ 0 ∧ x.gOff + x.data.length ≤ s.gNxt

structure SInv (s : Snd) : Prop where
  core : Core s
  wn : offAt s s.writeNext ≤ s.gNxt

def cs (s : Snd) : List Nat × Nat × Nat × Nat × Nat × Nat := (s.gW, s.gIss1, s.sndUna, s.sndNxt, s.gUna, s.gNxt)

def ck (s : Snd) : List WSeg × List Nat × Nat × Nat × Nat × Nat × Nat := (s.writeList, cs s)

theorem Core.congr {s s' : Snd} (h : ck s' = ck s) (I : Core s) : Core s' := by
  simp only [ck, cs, Prod.mk.injEq] at h
  obtain ⟨h1, h2, h3, h4, h5, h6, h7⟩ := h
  have hh : headOff s' = headOff s := by unfold headOff; rw [h1, h2]
  exact ⟨by rw [hh, h1, h2]; exact I.cont, by rw [h1, h2, h3]; exact I.ents, by rw [h1]; exact I.fl, by rw [h4, h3, h6]; exact I.una,
    by rw [h5, h3, h7]; exact I.nxt, by rw [h6, h7, h2]; exact I.ord, by rw [h1, hh, h6]; exact I.hd,
    by rw [h1, h2, h6]; exact I.emp, by rw [h1, h7]; exact I.front⟩

theorem Core.head {s : Snd} (I : Core s) {x : WSeg} {t : List WSeg} (h : s.writeList = x :: t) : x.gOff = s.gUna := by
  simpa only [headOff, h] using I.hd (h ▸ List.cons_ne_nil x t)

theorem offAt_congr {s s' : Snd} (h1 : s'.writeList = s.writeList) (h2 : s'.gW = s.gW) (i : Nat) : offAt s' i = offAt s i := by
  unfold offAt; rw [h1, h2]

theorem contig_le : ∀ (o : Nat) (l : List WSeg) (e : Nat), contig o l e → o ≤ e
  | _, [], _, h => Nat.le_of_eq h
  | _, _ :: t, e, h => Nat.le_trans (Nat.le_add_right _ _) (contig_le _ t e h.2.2)

theorem contig_head : ∀ {o : Nat} {l : List WSeg} {e : Nat}, contig o l e → (match l with | [] => e | x :: _ => x.gOff) = o
  | _, [], _, h => h.symm
  | _, _ :: _, _, h => h.1

theorem contig_mem : ∀ (o : Nat) (l : List WSeg) (e : Nat), contig o l e → ∀ x ∈ l, o ≤ x.gOff ∧ x.gOff + x.data.length ≤ e
  | _, [], _, _ => fun _ hx => nomatch hx
  | o, y :: t, e, h => by
    intro x hx
    rcases List.mem_cons.mp hx with hx | hx
    · subst hx
      have := contig_le _ t e h.2.2
      rw [h.1]; omega
    · have := contig_mem _ t e h.2.2 x hx
      omega

theorem contig_split : ∀ (o : Nat) (pre rest : List WSeg) (e : Nat), contig o (pre ++ rest) e →
    ∃ m, contig o pre m ∧ contig m rest e ∧ (rest ≠ [] → ∀ y ∈ pre, y.data ≠ [])
  | o, [], rest, e, h => ⟨o, rfl, h, fun _ _ hy => nomatch hy⟩
  | o, x :: t, rest, e, h => by
    obtain ⟨m, h1, h2, h3⟩ := contig_split (o + x.data.length) t rest e h.2.2
    refine ⟨m, ⟨h.1, fun hx => (List.append_eq_nil_iff.mp (h.2.1 hx)).1, h1⟩, h2, fun hr y hy => ?_⟩
    rcases List.mem_cons.mp hy with hy | hy
    · subst hy
      exact fun hx => hr (List.append_eq_nil_iff.mp (h.2.1 hx)).2
    · exact h3 hr y hy

theorem contig_join : ∀ (o : Nat) (pre rest : List WSeg) (m e : Nat), contig o pre m → contig m rest e →
    (rest ≠ [] → ∀ y ∈ pre, y.data ≠ []) → contig o (pre ++ rest) e
  | o, [], rest, m, e, h1, h2, _ => by simp only [contig] at h1; subst h1; exact h2
  | o, x :: t, rest, m, e, h1, h2, h3 => by
    refine ⟨h1.1, ?_, contig_join _ t rest m e h1.2.2 h2 (fun hr y hy => h3 hr y (List.mem_cons_of_mem _ hy))⟩
    intro hx
    have ht := h1.2.1 hx
    subst ht
    cases rest with
    | nil => rfl
    | cons r rs => exact absurd hx (h3 (List.cons_ne_nil r rs) x List.mem_cons_self)

/-- bytes the stream already holds stay where they are when it grows: behind `entryOk_mono` and `good_mono` -/
theorem take_drop_append {W : List Nat} (V : List Nat) {off l : Nat} (h : off + l ≤ W.length) :
    ((W ++ V).drop off).take l = (W.drop off).take l := by
  rw [List.drop_append_of_le_length (by omega), List.take_append_of_le_length (by simp; omega)]

theorem entryOk_mono (W V : List Nat) (iss1 : Nat) (x : WSeg) (h : entryOk W iss1 x) (hl : x.gOff + x.data.length ≤ W.length) :
    entryOk (W ++ V) iss1 x :=
  ⟨h.1.trans (take_drop_append V hl).symm, h.2⟩

/-- until `Shutdown(write)` no FIN entry is queued and `sndNxt` has not passed the last byte -/
structure SE (e : Ep) : Prop where
  inv : SInv e.snd
  nofin : e.sndClosed = false → (∀ x ∈ e.snd.writeList, x.data ≠ []) ∧ e.snd.gNxt ≤ e.snd.gW.length

structure LF (W : List Nat) (g n : Nat) (wl : List WSeg) : Prop where
  cont : contig (match wl with | [] => W.length | x :: _ => x.gOff) wl W.length
  ents : ∀ x ∈ wl, entryOk W g x
  fl : ∀ x ∈ wl, flagsOk x
  front : ∀ x ∈ wl, x.gOff < n → x.flags ≠ 0 ∧ x.gOff + x.data.length ≤ n

theorem LF_of_core (s : Snd) (I : Core s) : LF s.gW s.gIss1 s.gNxt s.writeList :=
  ⟨I.cont, I.ents, I.fl, I.front⟩

def eOk (W : List Nat) (g n : Nat) (x : WSeg) : Prop :=
  entryOk W g x ∧ flagsOk x ∧ (x.gOff < n → x.flags ≠ 0 ∧ x.gOff + x.data.length ≤ n)

theorem LF.eok {W : List Nat} {g n : Nat} {wl : List WSeg} (L : LF W g n wl) (x : WSeg) (hx : x ∈ wl) : eOk W g n x :=
  ⟨L.ents x hx, L.fl x hx, L.front x hx⟩

theorem LF.of {W : List Nat} {g n o : Nat} {wl : List WSeg} (hc : contig o wl W.length) (hok : ∀ x ∈ wl, eOk W g n x) :
    LF W g n wl :=
  ⟨by rw [contig_head hc]; exact hc, fun x hx => (hok x hx).1, fun x hx => (hok x hx).2.1, fun x hx => (hok x hx).2.2⟩

/-- the one place where the accepted stream may grow: old entries stay good by `entryOk_mono`, the new one lies at the
frontier or beyond -/
theorem SE_append {e e' : Ep} (V : List Nat) (h : SE e) (hc : e.sndClosed = false)
    (hwl : e'.snd.writeList = e.snd.writeList ++ [{ data := V, gOff := e.snd.gW.length }])
    (hk : cs e'.snd = cs { e.snd with gW := e.snd.gW ++ V })
    (hwn : e'.snd.writeNext = if e.snd.writeNext ≥ e.snd.writeList.length then e.snd.writeList.length else e.snd.writeNext)
    (hV : e'.sndClosed = false → V ≠ []) : SE e' := by
  obtain ⟨hne, hnx⟩ := h.nofin hc
  have I := h.inv.core
  simp only [cs, Prod.mk.injEq] at hk
  obtain ⟨hW, h3, h4, h5, h6, h7⟩ := hk
  generalize hy0 : ({ data := V, gOff := e.snd.gW.length } : WSeg) = y at hwl
  obtain ⟨hy, hyf, hyd⟩ : y.gOff = e.snd.gW.length ∧ y.flags = 0 ∧ y.data = V := hy0 ▸ ⟨rfl, rfl, rfl⟩
  have hmem := contig_mem _ _ _ I.cont
  have hord := I.ord
  have hc : contig (headOff e.snd) e'.snd.writeList e'.snd.gW.length := by
    rw [hwl, hW, List.length_append, ← hyd]
    exact contig_join _ _ [y] _ _ I.cont ⟨hy, fun _ => rfl, rfl⟩ (fun _ => hne)
  have L : LF e'.snd.gW e'.snd.gIss1 e'.snd.gNxt e'.snd.writeList := by
    refine .of hc ?_
    rw [hwl, hW, h3, h7]
    intro x hx
    rcases List.mem_append.mp hx with hx | hx
    · have := (LF_of_core e.snd I).eok x hx
      exact ⟨entryOk_mono _ _ _ _ this.1 (hmem x hx).2, this.2⟩
    · cases List.mem_singleton.mp hx
      exact ⟨⟨by rw [hy, hyd]; simp, fun hf => absurd hyf hf⟩, .inl hyf, fun h => absurd h (Nat.not_lt.mpr (hy ▸ hnx))⟩
  refine ⟨⟨⟨L.cont, L.ents, L.fl, by rw [h4, h3, h6]; exact I.una, by rw [h5, h3, h7]; exact I.nxt,
    by rw [h6, h7, hW, List.length_append]; exact ⟨hord.1, Nat.le_succ_of_le (Nat.le_trans hnx (Nat.le_add_right _ _))⟩, fun _ => ?_, fun he => by rw [hwl] at he; simp at he, L.front⟩, ?_⟩, fun hc' => ⟨?_, ?_⟩⟩
  · -- it starts where it did or, if it was empty, at the end of the stream, which was acknowledged
    rw [show headOff e'.snd = headOff e.snd from contig_head hc, h6]
    unfold headOff
    cases hw : e.snd.writeList with
    | nil => exact Nat.le_antisymm (I.emp hw) (Nat.le_trans hord.1 hnx)
    | cons a t => exact hw ▸ I.hd (hw ▸ List.cons_ne_nil a t)
  · -- the pointer stays on its entry or moves from behind the last one onto the new one
    have hwn0 := h.inv.wn
    rw [h7, hwn]
    unfold offAt at hwn0 ⊢
    rw [hwl]
    by_cases hge : e.snd.writeNext ≥ e.snd.writeList.length
    · rw [List.getElem?_eq_none hge] at hwn0
      rw [if_pos hge]
      simpa [hy] using hwn0
    · rw [if_neg hge, List.getElem?_append_left (by omega)]
      rw [List.getElem?_eq_getElem (by omega)] at hwn0 ⊢
      exact hwn0
  · rw [hwl]
    intro x hx
    rcases List.mem_append.mp hx with hx | hx
    · exact hne x hx
    · cases List.mem_singleton.mp hx
      exact hyd ▸ hV hc'
  · rw [h7, hW, List.length_append]; exact Nat.le_trans hnx (Nat.le_add_right _ _)

theorem queueWrite_SE (e : Ep) (v : List Nat) (hv : v ≠ []) (hc : e.sndClosed = false) (h : SE e) : SE (queueWrite e v) :=
  SE_append v h hc rfl rfl rfl fun _ => hv

theorem queueFin_SE (e : Ep) (hc : e.sndClosed = false) (h : SE e) : SE (queueFin e) :=
  SE_append [] h hc rfl (by simp [cs, queueFin]) rfl fun hx => nomatch hx

theorem bumpNxt_eq (s : Snd) (g o l : Nat) (hn : s.sndNxt = addS g s.gNxt) (hl1 : 1 ≤ l) (hB : s.gNxt < 2147483648)
    (hB2 : l < 2147483648) (hcase : o = s.gNxt ∨ o + l ≤ s.gNxt) :
    s.bumpNxt (addS (addS g o) l) = { s with sndNxt := addS g (max s.gNxt (o + l)), gNxt := max s.gNxt (o + l) } := by
  unfold Snd.bumpNxt
  rw [addS_addS, hn]
  by_cases ho : o = s.gNxt
  · subst ho
    have hs : sizeS (addS g s.gNxt) (addS g (s.gNxt + l)) = l := by
      rw [sizeS_fwd g _ _ (Nat.le_add_right _ _) (by omega), Nat.add_sub_cancel_left]
    rw [if_pos ((lt_iff _ _).mpr (by rw [hs]; exact ⟨hl1, Nat.le_of_lt hB2⟩)), hs, Nat.max_eq_right (Nat.le_add_right _ _)]
  · have hle : o + l ≤ s.gNxt := hcase.resolve_left ho
    have hlt : ¬ lt (addS g s.gNxt) (addS g (o + l)) = true := by
      rw [lt_iff, sizeS_addS_addS]; omega
    rw [if_neg hlt, Nat.max_eq_left hle, ← hn]

theorem bump_frontier (s : Snd) (g o l n : Nat) (hn : s.sndNxt = addS g n) (hgn : s.gNxt = n)
    (hl1 : 1 ≤ l) (hB : n < 2147483648) (hB2 : l < 2147483648) (hcase : o = n ∨ o + l ≤ n) :
    (s.bumpNxt (addS (addS g o) l)).sndNxt = addS g (if o = n then n + l else n) ∧
    (s.bumpNxt (addS (addS g o) l)).gNxt = (if o = n then n + l else n) := by
  subst hgn
  rw [bumpNxt_eq s g o l hn hl1 hB hB2 hcase]
  have : max s.gNxt (o + l) = if o = s.gNxt then s.gNxt + l else s.gNxt := by split <;> omega
  exact ⟨congrArg (addS g) this, this⟩

theorem contig_around (o : Nat) (pre post : List WSeg) (x : WSeg) (e : Nat) (h : contig o (pre ++ x :: post) e) :
    (∀ y ∈ pre, y.data ≠ [] ∧ y.gOff + y.data.length ≤ x.gOff) ∧ (∀ y ∈ post, x.gOff + x.data.length ≤ y.gOff) ∧
    (x.data = [] → post = []) ∧ contig o pre x.gOff ∧ contig (x.gOff + x.data.length) post e ∧ x.gOff + x.data.length ≤ e := by
  obtain ⟨m, h1, ⟨rfl, hx, hp⟩, h3⟩ := contig_split o pre (x :: post) e h
  exact ⟨fun y hy => ⟨h3 (List.cons_ne_nil _ _) y hy, (contig_mem _ _ _ h1 y hy).2⟩, fun y hy => (contig_mem _ _ _ hp y hy).1, hx, h1, hp,
    contig_le _ _ _ hp⟩

theorem forall_mem_subst {α} {P : α → Prop} {pre post ys : List α} {x y : α} (h : ∀ z ∈ pre ++ x :: post, P z)
    (hb : ∀ z ∈ y :: ys, P z) : ∀ z ∈ pre ++ (y :: ys ++ post), P z := by
  rw [List.forall_mem_append, List.forall_mem_cons] at h
  exact List.forall_mem_append.mpr ⟨h.1, List.forall_mem_append.mpr ⟨hb, h.2.2⟩⟩

theorem LF_subst {W : List Nat} {g n : Nat} (pre post ys : List WSeg) (x y : WSeg) (L : LF W g n (pre ++ x :: post))
    (hc : contig (x.gOff + x.data.length) post W.length → contig x.gOff (y :: ys ++ post) W.length)
    (hok : ∀ z ∈ y :: ys, eOk W g n z) :
    LF W g n (pre ++ (y :: ys ++ post)) ∧ y.gOff = x.gOff := by
  obtain ⟨m, h1, ⟨rfl, _, hp⟩, h3⟩ := contig_split _ pre (x :: post) _ L.cont
  have hj := hc hp
  exact ⟨.of (contig_join _ pre _ _ _ h1 hj (fun _ => h3 (List.cons_ne_nil _ _))) (forall_mem_subst L.eok hok), hj.1⟩

/-- sequence-space length of a write-list entry when it is transmitted -/
def xlen (x : WSeg) : Nat := if x.data = [] then 1 else x.data.length

theorem xlen_nil {x : WSeg} (h : x.data = []) : xlen x = 1 := if_pos h
theorem xlen_data {x : WSeg} (h : x.data ≠ []) : xlen x = x.data.length := if_neg h

/-- the frontier passes at most the entry that is sent: serves `core_bump` here and the window invariant in `C04.emit_W4` -/
theorem passed_eq {s : Snd} {pre post : List WSeg} {x z : WSeg} (I : Core s) (hwl : s.writeList = pre ++ x :: post)
    (hle : x.gOff ≤ s.gNxt) (hz : z ∈ s.writeList) (h1 : ¬ z.gOff < s.gNxt) (h2 : z.gOff < max s.gNxt (x.gOff + xlen x)) : z = x := by
  obtain ⟨a1, a2, a3, _⟩ := contig_around _ _ _ _ _ (hwl ▸ I.cont)
  rw [hwl] at hz
  rcases List.mem_append.mp hz with hz | hz
  · have := a1 z hz
    have := List.length_pos_iff.mpr this.1
    omega
  · rcases List.mem_cons.mp hz with hz | hz
    · exact hz
    · have := a2 z hz
      by_cases hd : x.data = []
      · rw [a3 hd] at hz; cases hz
      · rw [xlen_data hd] at h2; omega

theorem core_bump (s : Snd) (pre post : List WSeg) (x : WSeg) (I : Core s) (hB : s.gW.length + 1 < 2147483648)
    (hwl : s.writeList = pre ++ x :: post) (hf : x.flags ≠ 0) (hle : x.gOff ≤ s.gNxt) (n' : Nat)
    (hn' : n' = max s.gNxt (x.gOff + xlen x)) :
    s.bumpNxt (addS x.seq (xlen x)) = { s with sndNxt := addS s.gIss1 n', gNxt := n' } ∧
    Core { s with sndNxt := addS s.gIss1 n', gNxt := n' } ∧ x.gOff + x.data.length ≤ n' := by
  have a6 := (contig_around _ _ _ _ _ (hwl ▸ I.cont)).2.2.2.2.2
  have hm : x ∈ s.writeList := hwl ▸ List.mem_append_cons_self
  have hord := I.ord
  have hfr := I.front x hm
  have hl : 1 ≤ xlen x ∧ x.data.length ≤ xlen x ∧ xlen x ≤ x.data.length + 1 := by
    by_cases hd : x.data = []
    · rw [xlen_nil hd, hd]; exact ⟨Nat.le_refl _, Nat.zero_le _, Nat.le_refl _⟩
    · rw [xlen_data hd]; exact ⟨List.length_pos_iff.mpr hd, Nat.le_refl _, Nat.le_succ _⟩
  have hcase : x.gOff = s.gNxt ∨ x.gOff + xlen x ≤ s.gNxt := by
    rcases Nat.lt_or_ge x.gOff s.gNxt with h | h
    · have := (hfr h).2
      by_cases hd : x.data = []
      · rw [xlen_nil hd]; omega
      · rw [xlen_data hd]; omega
    · omega
  have hb := bumpNxt_eq s s.gIss1 x.gOff (xlen x) I.nxt hl.1 (Nat.lt_of_le_of_lt hord.2 hB) (by omega) hcase
  rw [← (I.ents x hm).2 hf, ← hn'] at hb
  have hn : s.gNxt ≤ n' ∧ n' ≤ s.gW.length + 1 ∧ x.gOff + x.data.length ≤ n' := by omega
  refine ⟨hb, ⟨I.cont, I.ents, I.fl, I.una, rfl, ⟨Nat.le_trans hord.1 hn.1, hn.2.1⟩, I.hd, I.emp, fun y hy hlt => ?_⟩, hn.2.2⟩
  have hlt : y.gOff < n' := hlt
  show y.flags ≠ 0 ∧ y.gOff + y.data.length ≤ n'
  by_cases hold : y.gOff < s.gNxt
  · exact ⟨(I.front y hy hold).1, Nat.le_trans (I.front y hy hold).2 hn.1⟩
  · cases passed_eq I hwl hle hy hold (hn' ▸ hlt)
    exact ⟨hf, hn.2.2⟩

/-- an emitted data segment carries the bytes of the accepted stream `W` at the offset its sequence number names
(with flags set: a segment without the ACK flag is ignored by every TCP receiver) -/
def Good (W : List Nat) (iss1 : Nat) (o : OutSeg) : Prop :=
  o.data ≠ [] → o.flags ≠ 0 → ∃ off, o.seq = addS iss1 off ∧ o.data = (W.drop off).take o.data.length ∧ off + o.data.length ≤ W.length

/-- `SEB`'s fields with `i` for `writeNext` (`LI_of_SEB`, `LI.stop`) -/
structure LI (e : Ep) (i : Nat) : Prop where
  core : Core e.snd
  at_ : offAt e.snd i ≤ e.snd.gNxt
  nofin : e.sndClosed = false → (∀ x ∈ e.snd.writeList, x.data ≠ []) ∧ e.snd.gNxt ≤ e.snd.gW.length
  bnd : e.snd.gW.length + 1 < 2147483648
  mp : 0 < e.snd.maxPayload

theorem LI.stop {e : Ep} {i : Nat} (h : LI e i) : SE (e.setWriteNext i) :=
  ⟨⟨Core.congr (s := e.snd) rfl h.core, h.at_⟩, h.nofin⟩

theorem offAt_next (s : Snd) (pre post : List WSeg) (y : WSeg) (I : Core s) (hwl : s.writeList = pre ++ y :: post) :
    offAt s (pre.length + 1) = y.gOff + y.data.length := by
  rw [← contig_head (contig_around _ _ _ _ _ (hwl ▸ I.cont)).2.2.2.2.1]
  unfold offAt
  rw [hwl]
  cases post with
  | nil => simp
  | cons z t => simp

theorem offAt_at (s : Snd) (pre post : List WSeg) (y : WSeg) (hwl : s.writeList = pre ++ y :: post) :
    offAt s pre.length = y.gOff := by
  unfold offAt; rw [hwl]; simp

theorem LI.gOff_le (e : Ep) (pre post : List WSeg) (seg0 : WSeg) (h : LI e pre.length) (hwl : e.snd.writeList = pre ++ seg0 :: post) :
    seg0.gOff ≤ e.snd.gNxt := offAt_at e.snd pre post seg0 hwl ▸ h.at_

/-- `l` is a variable with its equation because the model writes it in two ways (`1` for the FIN, `data.length` for
data) and the statement has to meet either term as it stands -/
theorem emit_LI {e0 : Ep} {pre post : List WSeg} {y : WSeg} (h : LI e0 pre.length)
    (hwl : e0.snd.writeList = pre ++ y :: post) (hf : y.flags ≠ 0) (l : Nat) (hl : l = xlen y) :
    ∃ a, (emitAt e0 y (addS y.seq l)).1 = { e0 with
        snd := { e0.snd with maxSentAck := e0.rcv.rcvNxt, sndNxt := addS e0.snd.gIss1 (max e0.snd.gNxt (y.gOff + l)),
                             gNxt := max e0.snd.gNxt (y.gOff + l) },
        rcv := { e0.rcv with rcvAcc := a } } ∧
      LI (emitAt e0 y (addS y.seq l)).1 (pre.length + 1) ∧ Good e0.snd.gW e0.snd.gIss1 (emitAt e0 y (addS y.seq l)).2 := by
  subst hl
  have hx := h.core.ents y (hwl ▸ List.mem_append_cons_self)
  have a6 := (contig_around _ _ _ _ _ (hwl ▸ h.core.cont)).2.2.2.2.2
  have hfr := emitAt_out e0 y (addS y.seq (xlen y))
  obtain ⟨hb, hcore, hend⟩ := core_bump ({ e0.snd with maxSentAck := e0.rcv.rcvNxt } : Snd) pre post y
    (Core.congr (s := e0.snd) rfl h.core) h.bnd hwl hf (LI.gOff_le e0 pre post y h hwl) _ rfl
  obtain ⟨a, hem⟩ := emitAt_bump e0 y (addS y.seq (xlen y))
  rw [hb] at hem
  refine ⟨a, hem, ?_, fun hne _ => ?_⟩
  · rw [hem]
    refine ⟨hcore, ?_, fun hc => ?_, h.bnd, h.mp⟩
    · rw [offAt_next _ pre post y hcore hwl]
      exact hend
    · obtain ⟨n1, n2⟩ := h.nofin hc
      have := xlen_data (n1 y (hwl ▸ List.mem_append_cons_self))
      exact ⟨n1, Nat.max_le.mpr ⟨n2, this ▸ a6⟩⟩
  · rw [hfr.1] at hne ⊢
    rw [hfr.2.1]
    exact ⟨y.gOff, hx.2 hf, hx.1, a6⟩

/-- the pieces in the form `splitAt` writes them; the second is also what a partial acknowledgement of `a` bytes leaves -/
theorem eOk.cut {W : List Nat} {g n : Nat} {x : WSeg} {a : Nat} (h : eOk W g n x) (hf : x.flags ≠ 0) (ha0 : 0 < a)
    (ha : a < x.data.length) :
    eOk W g n { x with data := x.data.take a } ∧
    eOk W g n { seq := addS x.seq a, flags := x.flags, data := x.data.drop a, gOff := x.gOff + a } := by
  obtain ⟨⟨hd, hs⟩, hfo, hfr⟩ := h
  have l1 : (x.data.take a).length = a := by rw [List.length_take]; omega
  have l2 : (x.data.drop a).length = x.data.length - a := List.length_drop
  have fl : ∀ d : List Nat, 0 < d.length → d ≠ [] ∧ x.flags = fAck ||| fPsh := fun d hl => ⟨List.ne_nil_of_length_pos hl, by
    rcases hfo with h0 | h1 | h2
    · exact absurd h0 hf
    · exact h1.2
    · rw [h2.1] at ha; simp at ha⟩
  refine ⟨⟨⟨?_, fun _ => hs hf⟩, .inr (.inl (fl _ (by rw [l1]; exact ha0))), fun hl => ⟨hf, ?_⟩⟩,
    ⟨⟨?_, fun _ => ?_⟩, .inr (.inl (fl _ (by rw [l2]; omega))), fun hl => ⟨hf, ?_⟩⟩⟩
  · show x.data.take a = (W.drop x.gOff).take (x.data.take a).length
    rw [l1]
    conv => lhs; rw [hd]
    rw [List.take_take, Nat.min_eq_left (by omega)]
  · have := (hfr hl).2
    show x.gOff + (x.data.take a).length ≤ n
    omega
  · show x.data.drop a = (W.drop (x.gOff + a)).take (x.data.drop a).length
    rw [l2]
    conv => lhs; rw [hd]
    rw [List.drop_take, List.drop_drop]
  · show addS x.seq a = addS g (x.gOff + a)
    rw [hs hf, addS_addS]
  · have hl : x.gOff + a < n := hl
    have := (hfr (by omega)).2
    show x.gOff + a + (x.data.drop a).length ≤ n
    omega

/-- the entry at the index gives way to a block over the same bytes: the one lemma behind `LI.replace` and the split in
`prep_data` -/
theorem LI.subst {e e' : Ep} {pre post ys : List WSeg} {x y : WSeg} (h : LI e pre.length)
    (hwl : e.snd.writeList = pre ++ x :: post) (hwl' : e'.snd.writeList = pre ++ (y :: ys ++ post))
    (hk : cs e'.snd = cs e.snd) (hm : e'.snd.maxPayload = e.snd.maxPayload) (hc : e'.sndClosed = e.sndClosed)
    (hcont : contig (x.gOff + x.data.length) post e.snd.gW.length → contig x.gOff (y :: ys ++ post) e.snd.gW.length)
    (hok : ∀ z ∈ y :: ys, eOk e.snd.gW e.snd.gIss1 e.snd.gNxt z) (hne : x.data ≠ [] → ∀ z ∈ y :: ys, z.data ≠ []) :
    LI e' pre.length := by
  have I := h.core
  simp only [cs, Prod.mk.injEq] at hk
  obtain ⟨hW, h3, h4, h5, h6, h7⟩ := hk
  obtain ⟨L, hg⟩ := LF_subst pre post ys x y (hwl ▸ LF_of_core e.snd I) hcont hok
  have hh : headOff e'.snd = headOff e.snd := by
    unfold headOff
    rw [hwl, hwl']
    cases pre with
    | nil => exact hg
    | cons a t => rfl
  refine ⟨⟨?_, by rw [hwl', hW, h3]; exact L.ents, by rw [hwl']; exact L.fl, by rw [h4, h3, h6]; exact I.una,
    by rw [h5, h3, h7]; exact I.nxt, by rw [h6, h7, hW]; exact I.ord, fun _ => by rw [hh, h6]; exact I.hd (by rw [hwl]; simp),
    fun he => by rw [hwl'] at he; simp at he, by rw [hwl', h7]; exact L.front⟩, ?_, fun hcl => ?_, by rw [hW]; exact h.bnd,
    by rw [hm]; exact h.mp⟩
  · unfold headOff
    rw [hwl', hW]
    exact L.cont
  · rw [offAt_at _ pre (ys ++ post) y hwl', hg, h7]
    exact LI.gOff_le e pre post x h hwl
  · obtain ⟨n1, n2⟩ := h.nofin (hc ▸ hcl)
    rw [hwl', h7, hW]
    rw [hwl] at n1
    exact ⟨forall_mem_subst n1 (hne (n1 x List.mem_append_cons_self)), n2⟩

theorem LI.replace {e e' : Ep} {pre post : List WSeg} {x x' : WSeg} (h : LI e pre.length)
    (hwl : e.snd.writeList = pre ++ x :: post) (hwl' : e'.snd.writeList = pre ++ x' :: post)
    (hk : cs e'.snd = cs e.snd) (hm : e'.snd.maxPayload = e.snd.maxPayload) (hc : e'.sndClosed = e.sndClosed)
    (hg : x'.gOff = x.gOff) (hd : x'.data = x.data) (hok : entryOk e.snd.gW e.snd.gIss1 x') (hfl : x'.flags ≠ 0)
    (hfo : flagsOk x') : LI e' pre.length := by
  have hx := (LF_of_core e.snd h.core).eok x (hwl ▸ List.mem_append_cons_self)
  have a3 := (contig_around _ _ _ _ _ (hwl ▸ h.core.cont)).2.2.1
  refine h.subst (ys := []) hwl hwl' hk hm hc (fun hp => ⟨hg, by rw [hd]; exact a3, by rw [hd]; exact hp⟩) ?_ ?_
  · exact List.forall_mem_singleton.mpr ⟨hok, hfo, fun hl => ⟨hfl, by rw [hg, hd]; exact (hx.2.2 (hg ▸ hl)).2⟩⟩
  · exact fun hx => List.forall_mem_singleton.mpr (hd ▸ hx)

theorem entry_at {e : Ep} {pre post : List WSeg} {x : WSeg} (h : LI e pre.length) (hwl : e.snd.writeList = pre ++ x :: post) :
    (x.assign e.snd.sndNxt).gOff = x.gOff ∧ (x.assign e.snd.sndNxt).data = x.data ∧
    (x.assign e.snd.sndNxt).flags ≠ 0 ∧ entryOk e.snd.gW e.snd.gIss1 (x.assign e.snd.sndNxt) ∧
    (x.data ≠ [] → flagsOk (x.assign e.snd.sndNxt)) := by
  have I := h.core
  have hm : x ∈ e.snd.writeList := hwl ▸ List.mem_append_cons_self
  have hok := I.ents x hm
  unfold WSeg.assign
  split
  · rename_i hz
    have hz : x.flags = 0 := by simpa using hz
    -- never sent: it starts at the frontier, and `sndNxt` is the sequence number of that offset
    have : ¬ x.gOff < e.snd.gNxt := fun hlt => (I.front x hm hlt).1 hz
    have := LI.gOff_le e pre post x h hwl
    have hq : e.snd.sndNxt = addS e.snd.gIss1 x.gOff := by rw [show x.gOff = e.snd.gNxt by omega]; exact I.nxt
    exact ⟨rfl, rfl, (by decide : fAck ||| fPsh ≠ 0), ⟨hok.1, fun _ => hq⟩, fun hd0 => .inr (.inl ⟨hd0, rfl⟩)⟩
  · rename_i hz
    exact ⟨rfl, rfl, by simpa using hz, hok, fun _ => I.fl x hm⟩

theorem prep_fin {e : Ep} {pre post : List WSeg} {x y : WSeg} (h : LI e pre.length) (hwl : e.snd.writeList = pre ++ x :: post)
    (hd0 : x.data = []) (hy : y = { x.assign e.snd.sndNxt with flags := fAck ||| fFin }) :
    LI { e with snd := { e.snd with writeList := pre ++ y :: post } } pre.length ∧ y.flags ≠ 0 ∧ y.data = [] := by
  obtain ⟨g1, g2, g3, g4, _⟩ := entry_at h hwl
  have hf : y.flags ≠ 0 := by rw [hy]; exact (by decide : fAck ||| fFin ≠ 0)
  have hyd : y.data = [] := by rw [hy]; exact g2.trans hd0
  exact ⟨h.replace hwl rfl rfl rfl rfl (by rw [hy]; exact g1) (by rw [hy]; exact g2) (by rw [hy]; exact ⟨g4.1, fun _ => g4.2 g3⟩) hf
    (.inr (.inr ⟨hyd, by rw [hy]⟩)), hf, hyd⟩

theorem prep_data {e : Ep} {pre post post' : List WSeg} {x seg y : WSeg} {av : Nat} (h : LI e pre.length)
    (hwl : e.snd.writeList = pre ++ x :: post) (hd0 : x.data ≠ []) (hav0 : 0 < av) (hseg : seg = x.assign e.snd.sndNxt)
    (hy : y = { seg with data := seg.data.take av })
    (hpost : seg.data.length ≤ av ∧ post' = post ∨ av < seg.data.length ∧
      post' = { seq := addS seg.seq av, flags := seg.flags, data := seg.data.drop av, gOff := seg.gOff + av } :: post) :
    LI { e with snd := { e.snd with writeList := pre ++ y :: post', outstanding := e.snd.outstanding + 1 } } pre.length ∧
    y.flags ≠ 0 ∧ y.data ≠ [] := by
  subst hseg
  obtain ⟨g1, g2, g3, g4, hfo⟩ := entry_at h hwl
  refine ⟨?_, by rw [hy]; exact g3, ?_⟩
  · rcases hpost with ⟨hs, rfl⟩ | ⟨hl, rfl⟩
    · obtain rfl : y = x.assign e.snd.sndNxt := by rw [hy, List.take_of_length_le hs]
      exact h.replace hwl rfl rfl rfl rfl g1 g2 g4 g3 (hfo hd0)
    · -- both pieces are entries in order and together cover what `x` covered
      generalize x.assign e.snd.sndNxt = seg at hy g1 g2 g3 g4 hfo hl ⊢
      subst hy
      have hx := (LF_of_core e.snd h.core).eok x (hwl ▸ List.mem_append_cons_self)
      obtain ⟨c1, c2⟩ := eOk.cut (x := seg) ⟨g4, hfo hd0, fun hlt => ⟨g3, by rw [g1, g2]; exact (hx.2.2 (g1 ▸ hlt)).2⟩⟩ g3 hav0 hl
      have l1 : (seg.data.take av).length = av := by rw [List.length_take]; omega
      have l2 : (seg.data.drop av).length = seg.data.length - av := List.length_drop
      have ne1 : seg.data.take av ≠ [] := List.ne_nil_of_length_pos (by omega)
      have ne2 : seg.data.drop av ≠ [] := List.ne_nil_of_length_pos (by omega)
      refine h.subst (ys := [_]) hwl rfl rfl rfl rfl (fun hp => ⟨g1, fun h0 => absurd h0 ne1, ?_, fun h0 => absurd h0 ne2, ?_⟩)
        (List.forall_mem_cons.mpr ⟨c1, List.forall_mem_singleton.mpr c2⟩)
        (fun _ => List.forall_mem_cons.mpr ⟨ne1, List.forall_mem_singleton.mpr ne2⟩)
      · show seg.gOff + av = x.gOff + (seg.data.take av).length
        rw [l1, g1]
      · show contig (x.gOff + (seg.data.take av).length + (seg.data.drop av).length) post _
        rw [l1, l2, show x.gOff + av + (seg.data.length - av) = x.gOff + x.data.length by rw [← g2]; omega]
        exact hp
  · rw [hy]
    exact fun h0 => (List.take_eq_nil_iff.mp h0).elim (Nat.ne_of_gt hav0) (g2 ▸ hd0)

/-- **one iteration of the send loop** keeps the invariant, and what it transmits is good -/
theorem sendStep_LI (e : Ep) (i : Nat) (h : LI e i) :
    (∀ e', sendStep e i = .stop e' → SE e' ∧ e'.snd.gW = e.snd.gW ∧ e'.snd.gIss1 = e.snd.gIss1 ∧ e'.snd.maxPayload = e.snd.maxPayload) ∧
    (∀ e' o, sendStep e i = .sent e' o → LI e' (i + 1) ∧ Good e.snd.gW e.snd.gIss1 o ∧ e'.snd.gW = e.snd.gW ∧ e'.snd.gIss1 = e.snd.gIss1) := by
  refine sendStep_cases e i
    (A := fun e' => SE e' ∧ e'.snd.gW = e.snd.gW ∧ e'.snd.gIss1 = e.snd.gIss1 ∧ e'.snd.maxPayload = e.snd.maxPayload)
    (B := fun e' o => LI e' (i + 1) ∧ Good e.snd.gW e.snd.gIss1 o ∧ e'.snd.gW = e.snd.gW ∧ e'.snd.gIss1 = e.snd.gIss1)
    ⟨LI.stop h, rfl, rfl, rfl⟩ ?fin ?edge ?data
  case fin =>
    intro pre x post y r hwl hi _ hd0 hy hr
    subst hi hr
    obtain ⟨h', hf, hyd⟩ := prep_fin h hwl hd0 hy
    obtain ⟨_, heq, hL, hG⟩ := emit_LI h' rfl hf 1 (xlen_nil hyd).symm
    exact ⟨hL, hG, by rw [heq], by rw [heq]⟩
  case edge =>
    intro pre x post y hwl hi hd0 hy _
    subst hi hy
    obtain ⟨g1, g2, g3, g4, hfo⟩ := entry_at h hwl
    have h' : LI { e with snd := { e.snd with writeList := pre ++ _ :: post, writeNext := pre.length } } pre.length :=
      h.replace hwl rfl rfl rfl rfl g1 g2 g4 g3 (hfo hd0)
    exact ⟨⟨⟨h'.core, h'.at_⟩, h'.nofin⟩, rfl, rfl, rfl⟩
  case data =>
    intro pre x post seg av y post' r hwl hi _ hd0 hseg hlt hav hy hpost hr
    subst hi hr
    obtain ⟨h', hf, hne⟩ := prep_data h hwl hd0 (hav ▸ Nat.lt_min.mpr ⟨((lt_iff _ _).mp hlt).1, h.mp⟩) hseg hy hpost
    obtain ⟨_, heq, hL, hG⟩ := emit_LI h' rfl hf _ (xlen_data hne).symm
    exact ⟨hL, hG, by rw [heq], by rw [heq]⟩

structure SEB (e : Ep) : Prop where
  se : SE e
  bnd : e.snd.gW.length + 1 < 2147483648
  mp : 0 < e.snd.maxPayload

theorem LI_of_SEB (e : Ep) (h : SEB e) : LI e e.snd.writeNext := ⟨h.se.inv.core, h.se.inv.wn, h.se.nofin, h.bnd, h.mp⟩

theorem SInv.congr {s s' : Snd} (h : ck s' = ck s) (hw : s'.writeNext = s.writeNext) (I : SInv s) : SInv s' := by
  have hck := h
  simp only [ck, cs, Prod.mk.injEq] at hck
  obtain ⟨c1, c2, c3, c4, c5, c6, c7⟩ := hck
  exact ⟨Core.congr h I.core, by rw [hw, c7, offAt_congr c1 c2]; exact I.wn⟩

theorem SEB.congr {e e' : Ep} (hk : ck e'.snd = ck e.snd) (hw : e'.snd.writeNext = e.snd.writeNext)
    (hm : e'.snd.maxPayload = e.snd.maxPayload) (hc : e'.sndClosed = e.sndClosed) (H : SEB e) : SEB e' := by
  have hck := hk
  simp only [ck, cs, Prod.mk.injEq] at hck
  obtain ⟨c1, c2, c3, c4, c5, c6, c7⟩ := hck
  exact ⟨⟨SInv.congr hk hw H.se.inv, by rw [hc, c1, c7, c2]; exact H.se.nofin⟩, by rw [c2]; exact H.bnd, by rw [hm]; exact H.mp⟩

theorem sendData_SEB (e : Ep) (h : SEB e) :
    SEB (sendData e).1 ∧ (sendData e).1.snd.gW = e.snd.gW ∧ (sendData e).1.snd.gIss1 = e.snd.gIss1 ∧
    (∀ o ∈ (sendData e).2, Good e.snd.gW e.snd.gIss1 o) := by
  -- `SEB` speaks of `writeNext`, which the loop sets only where it stops: hence `T` beside `R`
  refine sendData_steps (I := LI)
    (R := fun e r => SEB r.1 ∧ r.1.snd.gW = e.snd.gW ∧ r.1.snd.gIss1 = e.snd.gIss1 ∧ ∀ o ∈ r.2, Good e.snd.gW e.snd.gIss1 o)
    (T := fun e e' o => Good e.snd.gW e.snd.gIss1 o ∧ e'.snd.gW = e.snd.gW ∧ e'.snd.gIss1 = e.snd.gIss1)
    (fun ⟨g, w, i⟩ ⟨S, w', i', G⟩ => ⟨S, w'.trans w, i'.trans i, fun x hx =>
      (List.mem_cons.mp hx).elim (fun hx => hx ▸ g) fun hx => w ▸ i ▸ G x hx⟩)
    (fun _ _ h => ⟨⟨LI.stop h, h.bnd, h.mp⟩, rfl, rfl, fun _ ho => nomatch ho⟩)
    (fun e i h => ⟨fun e' he => ?_, (sendStep_LI e i h).2⟩)
    (fun _ e₁ _ ⟨S, r⟩ => ⟨SEB.congr (e := e₁) rfl rfl rfl rfl S, r⟩) e (LI_of_SEB e h)
  obtain ⟨a, b, c, d⟩ := (sendStep_LI e i h).1 e' he
  exact ⟨⟨a, by rw [b]; exact h.bnd, by rw [d]; exact h.mp⟩, b, c, fun _ ho => nomatch ho⟩

theorem logicalLen_assigned (x : WSeg) (hf : flagsOk x) (ha : x.flags ≠ 0) : x.logicalLen = xlen x := by
  rcases hf with h | h | h
  · exact absurd h ha
  · unfold WSeg.logicalLen xlen
    rw [h.2]
    simp only [h.1, if_false]
    have a : has (fAck ||| fPsh) fSyn = false := by decide
    have b : has (fAck ||| fPsh) fFin = false := by decide
    simp [a, b]
  · unfold WSeg.logicalLen xlen
    rw [h.2, h.1]
    have a : has (fAck ||| fFin) fSyn = false := by decide
    have b : has (fAck ||| fFin) fFin = true := by decide
    simp [a, b]

theorem LF_tail (W : List Nat) (g n : Nat) (x : WSeg) (t : List WSeg) (L : LF W g n (x :: t)) : LF W g n t :=
  .of L.cont.2.2 fun y hy => L.eok y (List.mem_cons_of_mem _ hy)

theorem LF_trim (W : List Nat) (g n : Nat) (x : WSeg) (t : List WSeg) (a : Nat) (L : LF W g n (x :: t))
    (ha0 : 0 < a) (ha : a < x.data.length) (hn : x.gOff + a ≤ n) :
    LF W g n ({ x with data := x.data.drop a, seq := addS x.seq a, gOff := x.gOff + a } :: t) := by
  have hx := L.eok x List.mem_cons_self
  have hc := (hx.cut (hx.2.2 (by omega)).1 ha0 ha).2
  refine .of (o := x.gOff + a) ⟨rfl, fun h => ?_, ?_⟩ (List.forall_mem_cons.mpr ⟨hc, fun y hy => L.eok y (List.mem_cons_of_mem _ hy)⟩)
  · exact absurd (List.drop_eq_nil_iff.mp h) (Nat.not_le.mpr ha)
  · show contig (x.gOff + a + (x.data.drop a).length) t W.length
    rw [List.length_drop, show x.gOff + a + (x.data.length - a) = x.gOff + x.data.length by omega]
    exact L.cont.2.2

/-- `offAt` on the bare list: `offAt s i = offIn s.gW s.writeList i` by `rfl` -/
def offIn (W : List Nat) (wl : List WSeg) (i : Nat) : Nat := match wl[i]? with | some x => x.gOff | none => W.length

/-- the loop in the list view (`ackList`, `ackCount`): acknowledging `a` transmitted units of sequence space removes / trims
exactly the entries that cover them; what is left starts at `u + a` -/
theorem LF_ackList (W : List Nat) (g n : Nat) : ∀ (wl : List WSeg) (a u : Nat), LF W g n wl →
    (∀ x t, wl = x :: t → x.gOff = u) → (wl = [] → W.length ≤ u) → u + a ≤ n →
    LF W g n (ackList wl a) ∧ (∀ x t, ackList wl a = x :: t → x.gOff = u + a) ∧ (ackList wl a = [] → W.length ≤ u + a) ∧
    (∀ x ∈ ackList wl a, x.data = [] → x ∈ wl) ∧
    ∀ i, offIn W wl i ≤ n → offIn W (ackList wl a) (i - ackCount wl a) ≤ n
  | [], a, u, L, _, hemp, _ =>
    ⟨L, fun _ _ h => (nomatch h), fun _ => Nat.le_trans (hemp rfl) (Nat.le_add_right _ _), fun _ h => (nomatch h), fun _ h => h⟩
  | seg :: rest, a, u, L, hu, _, hacc => by
    have hgu : seg.gOff = u := hu seg rest rfl
    have hc := L.cont
    simp only [contig] at hc
    by_cases hz : a = 0
    · subst hz
      simp only [ackList, ackCount, if_true]
      exact ⟨L, fun x t h => by rw [hu x t h]; rfl, fun h => (nomatch h), fun x hx _ => hx, fun i h => h⟩
    · have hlt : seg.gOff < n := by omega
      have hfr := L.front seg List.mem_cons_self hlt
      have hll := logicalLen_assigned seg (L.fl seg List.mem_cons_self) hfr.1
      simp only [ackList, ackCount, if_neg hz, hll]
      by_cases hgt : xlen seg > a
      · -- partial acknowledgement: the first entry is trimmed
        simp only [if_pos hgt]
        have hdat : seg.data ≠ [] := by
          intro hd
          rw [xlen_nil hd] at hgt; omega
        have hx := xlen_data hdat
        rw [hx] at hgt
        refine ⟨LF_trim W g n seg rest a L (Nat.pos_of_ne_zero hz) hgt (hgu ▸ hacc), ?_, fun h => (nomatch h), ?_, ?_⟩
        · intro x t h
          cases h
          rw [hgu]
        · intro x hx hd
          rcases List.mem_cons.mp hx with hx | hx
          · subst hx
            exact absurd (List.drop_eq_nil_iff.mp hd) (Nat.not_le.mpr hgt)
          · exact List.mem_cons_of_mem _ hx
        · intro i hi
          cases i with
          | zero => show seg.gOff + a ≤ n; omega
          | succ k => exact hi
      · -- acknowledged whole: removed, the rest likewise
        simp only [if_neg hgt]
        have Lr := LF_tail _ _ _ seg rest L
        -- the rest starts where `seg` ends; behind the FIN there is nothing
        have hh := contig_head hc.2.2
        have hnext : (∀ x t, rest = x :: t → x.gOff = u + xlen seg) ∧ (rest = [] → W.length ≤ u + xlen seg) := by
          refine ⟨fun x t h => ?_, fun h => ?_⟩ <;> subst h
          · rw [xlen_data (fun hd => nomatch hc.2.1 hd), ← hgu]; exact hh
          · have : seg.data.length ≤ xlen seg := by unfold xlen; split <;> simp [*]
            have hh : W.length = seg.gOff + seg.data.length := hh
            omega
        have hsum : u + xlen seg + (a - xlen seg) = u + a := by omega
        obtain ⟨r1, r2, r3, r4, r5⟩ := LF_ackList W g n rest (a - xlen seg) (u + xlen seg) Lr hnext.1 hnext.2 (hsum ▸ hacc)
        refine ⟨r1, fun x t h => by rw [r2 x t h, hsum], fun h => hsum ▸ r3 h,
          fun x hx hd => List.mem_cons_of_mem _ (r4 x hx hd), fun i hi => ?_⟩
        have hle : u + xlen seg ≤ n := by omega
        have hi' : offIn W rest (i - 1) ≤ n := by
          cases i with
          | zero =>
            cases rest with
            | nil => exact Nat.le_trans (hnext.2 rfl) hle
            | cons z t => exact Nat.le_trans (Nat.le_of_eq (hnext.1 z t rfl)) hle
          | succ k => exact hi
        have h5 := r5 (i - 1) hi'
        rwa [Nat.sub_sub, Nat.add_comm] at h5

/-- **the cumulative-ACK loop** (`LF_ackList` on the model's `ackLoop`) -/
theorem ackLoop_spec (fuel : Nat) : ∀ (s : Snd) (ackLeft u : Nat),
    LF s.gW s.gIss1 s.gNxt s.writeList → (∀ x t, s.writeList = x :: t → x.gOff = u) → (s.writeList = [] → s.gW.length ≤ u) →
    u + ackLeft ≤ s.gNxt → s.writeList.length < fuel → offAt s s.writeNext ≤ s.gNxt →
    LF s.gW s.gIss1 s.gNxt (ackLoop fuel s ackLeft).writeList ∧
    (ackLoop fuel s ackLeft).gW = s.gW ∧ (ackLoop fuel s ackLeft).gIss1 = s.gIss1 ∧ (ackLoop fuel s ackLeft).gNxt = s.gNxt ∧
    (ackLoop fuel s ackLeft).sndUna = s.sndUna ∧ (ackLoop fuel s ackLeft).sndNxt = s.sndNxt ∧ (ackLoop fuel s ackLeft).gUna = s.gUna ∧
    (∀ x t, (ackLoop fuel s ackLeft).writeList = x :: t → x.gOff = u + ackLeft) ∧
    ((ackLoop fuel s ackLeft).writeList = [] → s.gW.length ≤ u + ackLeft) ∧
    offAt (ackLoop fuel s ackLeft) (ackLoop fuel s ackLeft).writeNext ≤ s.gNxt ∧
    (∀ x ∈ (ackLoop fuel s ackLeft).writeList, x.data = [] → x ∈ s.writeList) := by
  intro s ackLeft u L hu hemp hacc hfuel hwn
  obtain ⟨l1, l2, l3, l4, l5⟩ := LF_ackList s.gW s.gIss1 s.gNxt s.writeList ackLeft u L hu hemp hacc
  rw [ackLoop_list fuel s ackLeft hfuel]
  exact ⟨l1, rfl, rfl, rfl, rfl, rfl, rfl, l2, l3, l5 s.writeNext hwn, l4⟩

theorem ack_range (s : Snd) (ack : Nat) (I : Core s)
    (hr : inRange (subS ack 1) s.sndUna s.sndNxt = true) :
    1 ≤ sizeS s.sndUna ack ∧ s.gUna + sizeS s.sndUna ack ≤ s.gNxt ∧
    ack % 4294967296 = addS s.gIss1 (s.gUna + sizeS s.sndUna ack) := by
  rw [inRange_iff, sizeS_subS_one, ← sizeS_mod _ s.sndNxt, I.una, I.nxt, sizeS_offsets _ _ _ I.ord.1] at hr
  have := sizeS_lt_M s.sndUna ack
  exact ⟨by omega, by omega, addS_sizeS _ _ _ _ I.una⟩

/-- **an acknowledgement of new data keeps the sender invariant** (`hB` is not used: `ack_range` holds of a stream of any
length) -/
theorem ackAdvance_SInv (s : Snd) (ack : Nat) (I : SInv s) (hB : s.gW.length + 1 < 2147483648)
    (hr : inRange (subS ack 1) s.sndUna s.sndNxt = true) :
    SInv (ackAdvance s ack) ∧ (ackAdvance s ack).gW = s.gW ∧ (ackAdvance s ack).gIss1 = s.gIss1 ∧
    (ackAdvance s ack).maxPayload = s.maxPayload ∧ (ackAdvance s ack).gNxt = s.gNxt ∧
    (∀ x ∈ (ackAdvance s ack).writeList, x.data = [] → x ∈ s.writeList) := by
  obtain ⟨_, k2, k3⟩ := ack_range s ack I.core hr
  have C := I.core
  obtain ⟨l1, l2, l3, l4, l5⟩ := LF_ackList s.gW s.gIss1 s.gNxt s.writeList (sizeS s.sndUna ack) s.gUna (LF_of_core s C)
    (fun _ _ => C.head) C.emp k2
  obtain ⟨_, _, _, h⟩ := ackAdvance_list s ack
  rw [h]
  refine ⟨⟨⟨l1.cont, l1.ents, l1.fl, k3, C.nxt, ⟨k2, C.ord.2⟩, fun hne => ?_, l3, l1.front⟩, l5 s.writeNext I.wn⟩, rfl, rfl, rfl, rfl, l4⟩
  unfold headOff
  cases hw : ackList s.writeList (sizeS s.sndUna ack) with
  | nil => exact absurd hw hne
  | cons x t => exact l2 x t hw

/-- Whatever the state, the segment size and the accepted stream stay as they are, so the standing assumptions carry
backwards over a step (`Res.keeps`); from the invariant, the invariant holds afterwards and what is transmitted is good. -/
def Res (e : Ep) (r : Ep × List OutSeg) : Prop :=
  r.1.snd.maxPayload = e.snd.maxPayload ∧ r.1.snd.gW = e.snd.gW ∧
  (SEB e → SEB r.1 ∧ r.1.snd.gIss1 = e.snd.gIss1 ∧ ∀ o ∈ r.2, Good e.snd.gW e.snd.gIss1 o)

theorem res_steps : Steps Res where
  nil := fun e => ⟨rfl, rfl, fun h => ⟨h, rfl, fun _ ho => nomatch ho⟩⟩
  seq := by
    intro e e₁ o₁ r h₁ h₂
    obtain ⟨m₁, w₁, i₁⟩ := h₁
    obtain ⟨m₂, w₂, i₂⟩ := h₂
    refine ⟨m₂.trans m₁, w₂.trans w₁, fun h => ?_⟩
    obtain ⟨s₁, g₁, k₁⟩ := i₁ h
    obtain ⟨s₂, g₂, k₂⟩ := i₂ s₁
    exact ⟨s₂, g₂.trans g₁, fun o ho => (List.mem_append.mp ho).elim (k₁ o) fun ho => w₁ ▸ g₁ ▸ k₂ o ho⟩

theorem Res.keeps {e : Ep} {r : Ep × List OutSeg} (h : Res e r)
    (hP : e.snd.gW.length + 1 < 2147483648 ∧ 0 < e.snd.maxPayload → SE e)
    (hr : r.1.snd.gW.length + 1 < 2147483648 ∧ 0 < r.1.snd.maxPayload) : SE r.1 := by
  rw [h.2.1, h.1] at hr
  exact (h.2.2 ⟨hP hr, hr.1, hr.2⟩).1.se

theorem Res.of_sndSame {e e' : Ep} {out : List OutSeg} (h : SndSame e e')
    (ho : SEB e → ∀ o ∈ out, Good e.snd.gW e.snd.gIss1 o) : Res e (e', out) :=
  ⟨h.congr (·.maxPayload) fun _ _ => rfl, h.congr (·.gW) fun _ _ => rfl, fun H =>
    ⟨SEB.congr (h.congr ck fun _ _ => rfl) (h.congr (·.writeNext) fun _ _ => rfl) (h.congr (·.maxPayload) fun _ _ => rfl) h.sndClosed H,
     h.congr (·.gIss1) fun _ _ => rfl, ho H⟩⟩

theorem good_ack (W : List Nat) (g : Nat) {o : OutSeg} (h : IsAck o) : Good W g o := fun hne => absurd h.out.1 hne

theorem sendData_keep (e : Ep) : (sendData e).1.snd.maxPayload = e.snd.maxPayload ∧ (sendData e).1.snd.gW = e.snd.gW := by
  obtain ⟨_, _, _, _, _, _, _, _, _, h⟩ := sendData_sendOnly e
  rw [h]
  exact ⟨rfl, rfl⟩

theorem sendData_res (e : Ep) : Res e (sendData e) :=
  ⟨(sendData_keep e).1, (sendData_keep e).2, fun h => ⟨(sendData_SEB e h).1, (sendData_SEB e h).2.2.1, (sendData_SEB e h).2.2.2⟩⟩

theorem resendSegment_res (e : Ep) : Res e ((resendSegment e).1, (resendSegment e).2) := by
  refine .of_sndSame (resendSegment_sndSame e) fun H o ho hne hfl => ?_
  obtain ⟨x, hx, hd, hq, hf⟩ := resendSegment_out e o ho
  have hm : x ∈ e.snd.writeList := List.mem_of_mem_head? hx
  have I := H.se.inv.core
  rw [hd] at hne ⊢
  rw [hq]
  rw [hf] at hfl
  exact ⟨x.gOff, (I.ents x hm).2 hfl, (I.ents x hm).1, (contig_mem _ _ _ I.cont x hm).2⟩

-- the sender is a variable `s'`: with `e'.snd` in its place the kernel unfolds the endpoint (deep recursion)
theorem SEB.of_snd {e' : Ep} {s' : Snd} (hs : e'.snd = s') (I : SInv s')
    (nf : e'.sndClosed = false → (∀ x ∈ s'.writeList, x.data ≠ []) ∧ s'.gNxt ≤ s'.gW.length)
    (b : s'.gW.length + 1 < 2147483648) (m : 0 < s'.maxPayload) : SEB e' := by
  subst hs
  exact ⟨⟨I, nf⟩, b, m⟩

/-- `P`: the sender after the duplicate-ACK bookkeeping and the window update, which touch nothing the invariant reads -/
theorem ackStage_res (e : Ep) (P : Snd) (ack r bu : Nat) (k1 : ck P = ck e.snd) (k2 : P.writeNext = e.snd.writeNext)
    (k3 : P.maxPayload = e.snd.maxPayload) :
    Res e ({ e with recentTS := r, sndBufUsed := bu,
                    snd := if inRange (subS ack 1) P.sndUna P.sndNxt = true then ackAdvance P ack else P }, []) := by
  have hck := k1
  simp only [ck, cs, Prod.mk.injEq] at hck
  obtain ⟨c1, c2, c3, c4, c5, c6, c7⟩ := hck
  by_cases hr : inRange (subS ack 1) P.sndUna P.sndNxt = true
  · rw [if_pos hr]
    have ha := ackAdvance_list P ack
    have hi := fun I hB => ackAdvance_SInv P ack I hB hr
    -- the new sender becomes a variable (the traps in `TcpFrame`)
    generalize ackAdvance P ack = A at ha hi ⊢
    obtain ⟨_, _, _, ha⟩ := ha
    refine ⟨by show A.maxPayload = _; rw [ha]; exact k3, by show A.gW = _; rw [ha]; exact c2, fun H => ?_⟩
    have hB : P.gW.length + 1 < 2147483648 := by rw [c2]; exact H.bnd
    obtain ⟨a1, a2, a3, a4, a5, a6⟩ := hi (SInv.congr k1 k2 H.se.inv) hB
    have nf : e.sndClosed = false → (∀ x ∈ A.writeList, x.data ≠ []) ∧ A.gNxt ≤ A.gW.length := by
      intro hc
      obtain ⟨n1, n2⟩ := H.se.nofin hc
      exact ⟨fun x hx hd => n1 x (by rw [← c1]; exact a6 x hx hd) hd, by rw [a5, a2, c7, c2]; exact n2⟩
    exact ⟨SEB.of_snd (e' := { e with recentTS := r, sndBufUsed := bu, snd := A }) rfl a1 nf (by rw [a2]; exact hB)
      (by rw [a4, k3]; exact H.mp), a3.trans c3, fun _ ho => nomatch ho⟩
  · rw [if_neg hr]
    exact ⟨k3, c2, fun H => ⟨SEB.congr (e' := { e with recentTS := r, sndBufUsed := bu, snd := P }) k1 k2 k3 rfl H, c3,
      fun _ ho => nomatch ho⟩⟩

theorem sndPrepare_res (e : Ep) (seg : InSeg) (wnd : Nat) (ts : Model.Header.TCPOpts) :
    Res e ((sndPrepare e seg wnd ts).1, (sndPrepare e seg wnd ts).2) := by
  have resend : ∀ (p : Ep) (b : Bool), Res e (p, []) →
      Res e ((if b = true then resendSegment p else (p, [])).1, (if b = true then resendSegment p else (p, [])).2) := by
    intro p b hp
    by_cases hb : b = true
    · rw [if_pos hb]; exact res_steps.seq hp (resendSegment_res p)
    · rw [if_neg hb]; exact hp
  obtain ⟨r, bu, c, _, hc, rfl, h⟩ := sndPrepare_eq e seg wnd ts
  obtain ⟨_, _, _, _, _, _, _, hs⟩ := hc ▸ checkDuplicateAck_same e.snd seg.ack seg.logicalLen wnd
  rw [h]
  exact resend _ _ (ackStage_res e (wndUpdate c.1 wnd) seg.ack r bu (by rw [hs]; rfl) (by rw [hs]; rfl) (by rw [hs]; rfl))

theorem sndHandleSegment_res (e : Ep) (seg : InSeg) (wnd : Nat) (ts : Model.Header.TCPOpts) :
    Res e (sndHandleSegment e seg wnd ts) :=
  res_steps.seq (sndPrepare_res e seg wnd ts) (sendData_res _)

/-- the timeout rewinds the write pointer to the first unacknowledged entry, which does not lie beyond the frontier -/
theorem rtoState_res (e : Ep) : Res e ({ e with snd := rtoState e.snd }, []) := by
  obtain ⟨_, _, _, _, hr⟩ := rtoState_same e.snd
  rw [hr]
  refine ⟨rfl, rfl, fun h => ⟨⟨⟨⟨Core.congr (s := e.snd) rfl h.se.inv.core, ?_⟩, h.se.nofin⟩, h.bnd, h.mp⟩, rfl, fun _ ho => nomatch ho⟩⟩
  have C := h.se.inv.core
  have := C.ord
  unfold offAt
  cases hw : e.snd.writeList with
  | nil => have := C.emp hw; show e.snd.gW.length ≤ e.snd.gNxt; omega
  | cons x t => have := C.head hw; show x.gOff ≤ e.snd.gNxt; omega

theorem queueFin_res (e : Ep) (hc : e.sndClosed = false) : Res e (queueFin e, []) :=
  ⟨rfl, rfl, fun H => ⟨⟨queueFin_SE e hc H.se, H.bnd, H.mp⟩, rfl, fun _ ho => nomatch ho⟩⟩

theorem shut_res (e : Ep) : Res e ({ e with snd := { e.snd with closed := true } }, []) :=
  ⟨rfl, rfl, fun H => ⟨SEB.congr (e := e) rfl rfl rfl rfl H, rfl, fun _ ho => nomatch ho⟩⟩

theorem popRead_res (e : Ep) (v : List Nat) (rest : List (List Nat)) (_ : e.rcvList = v :: rest) : Res e (popRead e v rest, []) :=
  .of_sndSame (.of_eq rfl rfl) fun _ _ ho => nomatch ho

/-- every leaf keeps the accepted stream as it is, the queueing of a write does not: `Res` holds of every handler but `Write` -/
theorem res_leaves : SegLeaves (fun _ => True) Res where
  toSteps := res_steps
  send := sendData_res
  ack := fun e => .of_sndSame (sendAck_sndSame e) fun _ _ ho => good_ack _ _ ⟨e, List.mem_singleton.mp ho⟩
  close := fun e => .of_sndSame (closeIfDone_sndSame e) fun _ _ ho => nomatch ho
  fin := fun e _ hc => queueFin_res e hc
  shut := shut_res
  rto := fun e _ _ => res_steps.seq' (rtoState_res e) (sendData_res _) (List.nil_append _).symm
  rcv := fun e seg _ => .of_sndSame (rcvHandleSegment_rcvOnly e seg).snd fun _ o ho => good_ack _ _ ((rcvHandleSegment_rcvOnly e seg).out o ho)
  snd := fun e seg w ts _ => sndHandleSegment_res e seg w ts
  reset := fun _ => .of_sndSame (.of_eq rfl rfl) fun _ _ ho => nomatch ho

theorem good_mono (W V : List Nat) (g : Nat) (o : OutSeg) (h : Good W g o) : Good (W ++ V) g o := by
  intro hne hfl
  obtain ⟨off, h1, h2, h3⟩ := h hne hfl
  exact ⟨off, h1, h2.trans (take_drop_append V h3).symm, by rw [List.length_append]; omega⟩

theorem appWrite_res (e : Ep) (d : List Nat) :
    (appWrite e d).1.snd.maxPayload = e.snd.maxPayload ∧ (∃ V, (appWrite e d).1.snd.gW = e.snd.gW ++ V) ∧
    (SEB e → (appWrite e d).1.snd.gW.length + 1 < 2147483648 →
      SEB (appWrite e d).1 ∧ (appWrite e d).1.snd.gIss1 = e.snd.gIss1 ∧
      ∀ o ∈ (appWrite e d).2.2, Good (appWrite e d).1.snd.gW e.snd.gIss1 o) := by
  rcases appWrite_eq e d with ⟨r, h⟩ | ⟨v, _, hc, hv, _, h⟩ <;> rw [h]
  · exact ⟨rfl, ⟨[], (List.append_nil _).symm⟩, fun H _ => ⟨H, rfl, fun _ ho => nomatch ho⟩⟩
  · obtain ⟨m, w, i⟩ := sendData_res (queueWrite e v)
    refine ⟨m, ⟨v, w⟩, fun H hb => ?_⟩
    have w' : (sendData (queueWrite e v)).1.snd.gW = e.snd.gW ++ v := w
    rw [w'] at hb ⊢
    exact i ⟨queueWrite_SE e v hv hc H.se, hb, H.mp⟩

theorem SE_fresh (e : Ep) (h1 : e.snd.writeList = []) (h2 : e.snd.gW = []) (h3 : e.snd.gUna = 0) (h4 : e.snd.gNxt = 0)
    (h5 : e.snd.sndUna % 4294967296 = addS e.snd.gIss1 0) (h6 : e.snd.sndNxt = addS e.snd.gIss1 0) : SE e := by
  refine ⟨⟨⟨?_, ?_, ?_, ?_, ?_, ?_, ?_, ?_, ?_⟩, ?_⟩, ?_⟩
  · unfold headOff; rw [h1, h2]; rfl
  · intro x hx; rw [h1] at hx; simp at hx
  · intro x hx; rw [h1] at hx; simp at hx
  · rw [h3]; exact h5
  · rw [h4]; exact h6
  · rw [h3, h4, h2]; exact ⟨Nat.le_refl _, by simp⟩
  · intro hne; exact absurd h1 hne
  · intro _; rw [h2, h3]; simp
  · intro x hx; rw [h1] at hx; simp at hx
  · unfold offAt; rw [h1, h2, h4]; simp
  · intro _; rw [h1, h2, h4]; exact ⟨fun x hx => by simp at hx, by simp⟩

open Props.TcpReach in
/-- the sender invariant (under its standing assumptions) is kept by every endpoint handler -/
theorem send_inv : EpInv (fun e => e.snd.gW.length + 1 < 2147483648 ∧ 0 < e.snd.maxPayload → SE e) where
  fresh := by
    intros
    exact SE_fresh _ rfl rfl rfl rfl rfl (addS_addS _ 1 0).symm
  dflt := fun _ => SE_fresh _ rfl rfl rfl rfl (by decide) (by decide)
  failed := fun _ _ => SE_fresh _ rfl rfl rfl rfl (by show (0 : Nat) % 4294967296 = addS 0 0; decide) (by show (0 : Nat) = addS 0 0; decide)
  segs := fun e l => (res_leaves.handleSegments e l fun _ _ => trivial).keeps
  write := by
    intro e d hP hres
    obtain ⟨m, ⟨V, w⟩, i⟩ := appWrite_res e d
    have hb : e.snd.gW.length + 1 < 2147483648 := by
      have := hres.1; rw [w, List.length_append] at this; omega
    have hmp : 0 < e.snd.maxPayload := by rw [← m]; exact hres.2
    exact (i ⟨hP ⟨hb, hmp⟩, hb, hmp⟩ hres.1).1.se
  read := fun e => (res_leaves.appRead popRead_res e).keeps
  shut := fun e => (res_leaves.appShutdownWrite e).keeps
  timer := fun e => (res_leaves.timerEvent e).keeps

open Props.TcpReach in
/-- **C01 (sending direction, reachability)**: in every reachable state, on every connection whose accepted stream is
shorter than 2^31 bytes and whose segment size is not zero, the write list is a contiguous cover of the unacknowledged
part of the stream, every entry holds the stream's bytes at its offset under the sequence number of that offset -/
theorem sender_invariant_reachable (c : Cfg) (ops : List Op) :
    StAll (fun e => e.snd.gW.length + 1 < 2147483648 ∧ 0 < e.snd.maxPayload → SE e) (run c ops).1 :=
  run_all send_inv c ops

/-- **C01 (sending direction, emissions)**: from any state satisfying the invariant, whatever a handler transmits
carries, under its sequence number, exactly the bytes `Write` accepted at the stream offset that number names.  About
what is transmitted: that every accepted byte is transmitted in the end is not claimed. -/
theorem emitted_data_is_the_written_stream (e : Ep) (h : SEB e) :
    (∀ l, ∀ o ∈ (handleSegments e l).2, Good e.snd.gW e.snd.gIss1 o) ∧
    (∀ o ∈ (timerEvent e).2, Good e.snd.gW e.snd.gIss1 o) ∧
    (∀ o ∈ (appShutdownWrite e).2, Good e.snd.gW e.snd.gIss1 o) ∧
    (∀ o ∈ (appRead e).2.2, Good e.snd.gW e.snd.gIss1 o) ∧
    (∀ d, (appWrite e d).1.snd.gW.length + 1 < 2147483648 → ∀ o ∈ (appWrite e d).2.2, Good (appWrite e d).1.snd.gW e.snd.gIss1 o) :=
  ⟨fun l => ((res_leaves.handleSegments e l fun _ _ => trivial).2.2 h).2.2, ((res_leaves.timerEvent e).2.2 h).2.2,
   ((res_leaves.appShutdownWrite e).2.2 h).2.2, ((res_leaves.appRead popRead_res e).2.2 h).2.2, fun d hb => ((appWrite_res e d).2.2 h hb).2.2⟩

/-- non-vacuity: a fresh connection meets the assumptions; after a `Write` of five bytes the invariant holds and one
data segment with exactly those bytes has been transmitted -/
example :
    let e := newEp 1000 5 65535 1460 0 65535 0 1500 65536 65536 false 0 false
    SEB e ∧ ((appWrite e [1, 2, 3, 4, 5]).2.2.map (fun o => (o.seq, o.data))) = [(1001, [1, 2, 3, 4, 5])] :=
  ⟨⟨SE_fresh _ rfl rfl rfl rfl (by decide) (by decide), by decide, by decide⟩, by decide⟩

end Props.C01
