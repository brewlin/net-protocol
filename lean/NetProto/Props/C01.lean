import NetProto.Props.TcpLemmas
import NetProto.Props.TcpShape
/-! # C01 — TCP delivers an exact, ordered, duplicate-free byte stream

Model: `Model/Tcp.lean`, tied to the real stack by the trace correspondence of the TCP world.
Receiving direction: proved for every history (`reads_are_a_prefix_of_the_peer_stream`): any interleaving of on-stream
segments with reads, writes, timeouts and shutdown, any initial sequence number, streams below 2^31 bytes (the 32-bit
sequence space cannot tell older duplicates apart; the stack has no PAWS check).  It rests on `OnStream` and `RInv`.
Sending direction: `Props/C01Send.lean`. -/
namespace Props.C01
open Model.Tcp Props.TcpFrame Props.TcpLemmas Props.TcpShape

theorem trimToNew_data (r : Rcv) (seq : Nat) (data : List Nat) (sq : Nat) (d : List Nat)
    (hl : data.length ≠ 0) (hmax : data.length ≤ 2147483648) (h : trimToNew r seq data = some (sq, d)) :
    (sq = r.rcvNxt ∨ sq = seq ∧ sizeS seq r.rcvNxt = 0) ∧ d = data.drop (sizeS seq r.rcvNxt) ∧
    sizeS seq r.rcvNxt < data.length := by
  unfold trimToNew at h
  have hpos : data.length > 0 := Nat.pos_of_ne_zero hl
  simp only [hpos, ↓reduceIte] at h
  split at h
  · cases h
  · rename_i hw
    have hw' : inWindow r.rcvNxt seq data.length = true := by simpa using hw
    rw [inWindow_iff] at hw'
    split at h
    · cases h
      exact ⟨.inl rfl, rfl, by omega⟩
    · rename_i hnlt
      cases h
      have hn : ¬ (1 ≤ sizeS seq r.rcvNxt ∧ sizeS seq r.rcvNxt ≤ 2147483648) := fun hc => hnlt ((lt_iff _ _).mpr hc)
      have hz : sizeS seq r.rcvNxt = 0 := by omega
      exact ⟨.inr ⟨rfl, hz⟩, by rw [hz]; rfl, by omega⟩

theorem trimToNew_empty (r : Rcv) (seq sq : Nat) (d : List Nat) (h : trimToNew r seq [] = some (sq, d)) :
    sq = r.rcvNxt ∧ d = [] := by
  unfold trimToNew at h
  simp only [List.length_nil, Nat.lt_irrefl, ↓reduceIte] at h
  split at h
  · cases h
  · rename_i hne; cases h; simp at hne; exact ⟨hne, rfl⟩

/-- a segment carries bytes `[off, off + data.length)` of the peer's stream `P`, whose first byte has sequence
number `base` -/
def OnStream (P : List Nat) (base seq : Nat) (data : List Nat) (off : Nat) : Prop :=
  seq = (base + off) % 4294967296 ∧ data = (P.drop off).take data.length ∧ off + data.length ≤ P.length

/-- `sizeS_fwd`, `sizeS_bwd`, `addS_addS` with `% 4294967296` written out as `OnStream` and `RInv` write it: `rw` does not
see through `addS` -/
theorem sizeS_stream (b x y : Nat) (h : x ≤ y) (hd : y - x < 4294967296) :
    sizeS ((b + x) % 4294967296) ((b + y) % 4294967296) = y - x := sizeS_fwd b x y h hd

theorem sizeS_stream_back (b x y : Nat) (h : y < x) (hd : x - y < 4294967296) :
    sizeS ((b + x) % 4294967296) ((b + y) % 4294967296) = 4294967296 - (x - y) := sizeS_bwd b x y h hd

theorem addS_stream (b x k : Nat) : addS ((b + x) % 4294967296) k = (b + (x + k)) % 4294967296 := addS_addS b x k

/-- The receiver's arithmetic in one place: position `n` and the segment's start `off` are less than 2^31 apart, so the
forward distance from the segment's start to `rcvNxt` is `n - off` or at least 2^31, and the trim accepts only distances
below the segment's length. -/
theorem trimToNew_onStream (P : List Nat) (base : Nat) (r : Rcv) (seq : Nat) (data : List Nat) (n off sq : Nat) (d : List Nat)
    (hn : r.rcvNxt = (base + n) % 4294967296) (hs : OnStream P base seq data off)
    (hl : data.length ≠ 0) (hmax : data.length ≤ 2147483648) (hnear : off < n + 2147483648 ∧ n < off + 2147483648)
    (h : trimToNew r seq data = some (sq, d)) :
    off ≤ n ∧ n < off + data.length ∧ sq = (base + n) % 4294967296 ∧ d = (P.drop n).take (off + data.length - n) := by
  have t := trimToNew_data r seq data sq d hl hmax h
  rw [hs.1, hn] at t
  have hle : off ≤ n := by
    refine Nat.le_of_not_lt fun hlt => ?_
    have := t.2.2
    rw [sizeS_stream_back base off n hlt (by omega)] at this
    omega
  rw [sizeS_stream base off n hle (by omega)] at t
  refine ⟨hle, by have := t.2.2; omega, t.1.elim id fun ⟨h1, h0⟩ => by rw [h1, show n = off by omega], ?_⟩
  have h2 := hs.2.1
  generalize data.length = L at h2 ⊢
  rw [t.2.1, h2, List.drop_take, List.drop_drop]
  rw [show off + (n - off) = n by omega, show L - (n - off) = off + L - n by omega]

/-- **C01 (receiver step)**: if the receiver has taken exactly the first `n` bytes of the peer's stream and an on-stream
segment within 2^31 of `n` is consumed, the receive list grows by exactly the stream's next bytes and `rcvNxt` follows -/
theorem consume_delivers_next_bytes (P : List Nat) (base : Nat) (e : Ep) (fl seq : Nat) (data : List Nat) (n off : Nat)
    (_hbase : base < 4294967296)
    (hn : e.rcv.rcvNxt = (base + n) % 4294967296) (hs : OnStream P base seq data off)
    (hl : data.length ≠ 0) (hmax : data.length ≤ 2147483648) (hnear : off < n + 2147483648 ∧ n < off + 2147483648)
    (hfin : has fl fFin = false) (hc : (consumeSegment e fl seq data).2.1 = true) :
    off ≤ n ∧ n < off + data.length ∧
    (consumeSegment e fl seq data).1.rcvList = e.rcvList ++ [(P.drop n).take (off + data.length - n)] ∧
    (consumeSegment e fl seq data).1.rcv.rcvNxt = (base + (off + data.length)) % 4294967296 := by
  unfold consumeSegment at hc ⊢
  split at hc
  · simp at hc
  · rename_i sq d htrim
    obtain ⟨h1, h2, hsq, hd⟩ := trimToNew_onStream P base e.rcv seq data n off sq d hn hs hl hmax hnear htrim
    have hlen : d.length = off + data.length - n := by
      have := hs.2.2
      rw [hd, List.length_take, List.length_drop]; omega
    have a := advanceRcv_deliver e d (addS sq d.length)
    simp only [hfin, Bool.false_eq_true, ↓reduceIte]
    refine ⟨h1, h2, ?_, ?_⟩
    · rw [a.2.1 (by intro h0; rw [h0] at hlen; simp at hlen; omega), hd]
    · rw [a.2.2.1, hsq, hlen, addS_stream]
      congr 1; omega

/-- the receiver has taken exactly the first `n` bytes of the peer's stream `P`: `read` is what the application has read,
the rest waits in the receive list; parked segments are pieces of `P`.  `nxt` only while the receive side is open: a
consumed FIN moves `rcvNxt` one beyond `n`. -/
structure RInv (P : List Nat) (base : Nat) (read : List Nat) (e : Ep) (n : Nat) : Prop where
  nxt : e.rcv.closed = false → e.rcv.rcvNxt = (base + n) % 4294967296
  got : read ++ e.rcvList.flatten = P.take n
  le : n ≤ P.length
  pend : ∀ s ∈ e.rcv.pending, ∃ off, OnStream P base s.seq s.data off

theorem rinv_of_same {P base read e e' n} (h : RInv P base read e n) (s : RcvSame e e') : RInv P base read e' n :=
  ⟨by rw [s.2.2.1, s.2.1]; exact h.nxt, by rw [s.1]; exact h.got, h.le, by rw [s.2.2.2]; exact h.pend⟩

theorem consumeSegment_inv (P : List Nat) (base : Nat) (read : List Nat) (e : Ep) (n : Nat) (fl seq : Nat) (data : List Nat) (off : Nat)
    (hP : P.length < 2147483648) (h : RInv P base read e n) (hc : e.rcv.closed = false)
    (hs : OnStream P base seq data off) :
    ∃ n', n ≤ n' ∧ RInv P base read (consumeSegment e fl seq data).1 n' := by
  have hn := h.nxt hc
  unfold consumeSegment
  split
  · exact ⟨n, Nat.le_refl _, h⟩
  · rename_i sq d htrim
    -- the trim keeps the stream from `n` up to some `n'`
    have piece : ∃ n', n ≤ n' ∧ n' ≤ P.length ∧ sq = (base + n) % 4294967296 ∧ d = (P.drop n).take (n' - n) := by
      by_cases hl : data.length = 0
      · rw [List.eq_nil_of_length_eq_zero hl] at htrim
        have t := trimToNew_empty e.rcv seq sq d htrim
        exact ⟨n, Nat.le_refl _, h.le, by rw [t.1, hn], by rw [t.2]; simp⟩
      · have := hs.2.2
        have := h.le
        obtain ⟨_, _, hsq, hd⟩ := trimToNew_onStream P base e.rcv seq data n off sq d hn hs hl (by omega) (by omega) htrim
        exact ⟨off + data.length, by omega, hs.2.2, hsq, hd⟩
    obtain ⟨n', hle, hle', hsq, hd⟩ := piece
    have hlen : d.length = n' - n := by rw [hd, List.length_take, List.length_drop]; omega
    have a := advanceRcv_deliver e d (addS sq d.length)
    have hinv : RInv P base read (advanceRcv (deliver e d) (addS sq d.length)) n' := by
      refine ⟨fun _ => ?_, ?_, hle', by rw [a.2.2.2.2]; exact h.pend⟩
      · rw [a.2.2.1, hsq, hlen, addS_stream, show n + (n' - n) = n' by omega]
      · rw [a.1, ← List.append_assoc, h.got, hd, ← List.take_add, show n + (n' - n) = n' by omega]
    split
    · -- FIN: the receive side closes, parked segments are dropped
      refine ⟨n', hle, ⟨?_, ?_, hinv.le, ?_⟩⟩
      · intro hcc; simp [consumeFin] at hcc
      · simp only [consumeFin]
        rw [(sendAck_rcvSame _).1]
        exact hinv.got
      · intro s hs'; simp [consumeFin] at hs'
    · exact ⟨n', hle, hinv⟩

theorem insertPending_mem (x : PSeg) (l : List PSeg) (y : PSeg) : y ∈ insertPending x l → y = x ∨ y ∈ l := by
  induction l with
  | nil => simp [insertPending]
  | cons z t ih =>
    simp only [insertPending]
    split
    · exact List.mem_cons.mp
    · intro h
      rcases List.mem_cons.mp h with h | h
      · exact .inr (h ▸ List.mem_cons_self)
      · exact (ih h).imp_right (List.mem_cons_of_mem _)

theorem popPending_inv {P base read e n} (s : PSeg) (rest : List PSeg) (h : RInv P base read e n) (hp : e.rcv.pending = s :: rest) :
    RInv P base read (e.popPending s rest) n :=
  ⟨h.nxt, h.got, h.le, fun x hx => h.pend x (by rw [hp]; exact List.mem_cons_of_mem _ hx)⟩

theorem drainPending_inv (P : List Nat) (base : Nat) (read : List Nat) (hP : P.length < 2147483648)
    (fuel : Nat) (e : Ep) (n : Nat) (out : List OutSeg) (h : RInv P base read e n) :
    ∃ n', RInv P base read (drainPending fuel e out).1 n' := by
  -- cases in the branch order of `drainPending` (4: a stale entry is dropped, 6: one is consumed), binders positional
  fun_induction drainPending fuel e out generalizing n
  case case4 s rest hp _ ih => exact ih _ (popPending_inv s rest h hp)
  case case6 e _ hc s rest hp _ _ _ ih =>
    obtain ⟨off, hon⟩ := h.pend s (by rw [hp]; exact List.mem_cons_self)
    obtain ⟨n1, _, h1⟩ := consumeSegment_inv P base read e n s.flags s.seq s.data off hP h (by simpa using hc) hon
    refine ih n1 ?_
    split
    · exact h1
    · -- what is left of the pending list was parked before
      exact ⟨h1.nxt, h1.got, h1.le, fun x hx => h.pend x (by rw [hp]; exact List.mem_cons_of_mem _ hx)⟩
  all_goals exact ⟨n, h⟩

theorem parkRcv_frame (r : Rcv) (seg : InSeg) : (parkRcv r seg).rcvNxt = r.rcvNxt ∧ (parkRcv r seg).closed = r.closed ∧
    ∀ x ∈ (parkRcv r seg).pending, x = ⟨seg.seq, seg.flags, seg.data⟩ ∨ x ∈ r.pending := by
  unfold parkRcv
  simp only
  split
  · exact ⟨rfl, rfl, fun x hx => insertPending_mem _ _ _ hx⟩
  · exact ⟨rfl, rfl, fun x hx => Or.inr hx⟩

/-- **C01 (receiver)**: `receiver.handleRcvdSegment` on any piece of the peer's stream keeps the invariant -/
theorem rcvHandleSegment_inv (P : List Nat) (base : Nat) (read : List Nat) (hP : P.length < 2147483648)
    (e : Ep) (n : Nat) (seg : InSeg) (off : Nat) (h : RInv P base read e n) (hon : OnStream P base seg.seq seg.data off) :
    ∃ n', RInv P base read (rcvHandleSegment e seg).1 n' := by
  fun_cases rcvHandleSegment e seg
  case case2 => exact ⟨n, rinv_of_same h (sendAck_rcvSame e)⟩
  case case3 =>
    -- parked: the pending list gains this very segment
    refine ⟨n, ?_⟩
    unfold parkSegment
    apply rinv_of_same _ (sendAck_rcvSame _)
    have hpr := parkRcv_frame e.rcv seg
    refine ⟨by simp only; rw [hpr.1, hpr.2.1]; exact h.nxt, h.got, h.le, ?_⟩
    intro x hx
    rcases hpr.2.2 x hx with hx | hx
    · subst hx; exact ⟨off, hon⟩
    · exact h.pend x hx
  case case5 hc _ _ _ =>
    obtain ⟨n1, _, h1⟩ := consumeSegment_inv P base read e n seg.flags seg.seq seg.data off hP h (by simpa using hc) hon
    exact drainPending_inv P base read hP _ _ n1 _ h1
  all_goals exact ⟨n, h⟩

/-- every handler but `Read`: the receive path keeps the invariant, the rest leaves what it reads alone -/
theorem rinv_leaves (P : List Nat) (base : Nat) (read : List Nat) (hP : P.length < 2147483648) :
    SegLeaves (fun s => ∃ off, OnStream P base s.seq s.data off)
      (fun e r => (∃ n, RInv P base read e n) → ∃ n, RInv P base read r.1 n) :=
  have same : ∀ {e e' : Ep}, RcvSame e e' → (∃ n, RInv P base read e n) → ∃ n, RInv P base read e' n :=
    fun s ⟨n, h⟩ => ⟨n, rinv_of_same h s⟩
  { toSteps := Steps.inv fun e => ∃ n, RInv P base read e n
    send := fun e => same (sendData_rcvSame e)
    ack := fun e => same (sendAck_rcvSame e)
    close := fun e => same (closeIfDone_rcvSame e)
    fin := fun e _ _ => same (.refl e)
    shut := fun e => same (.refl e)
    rto := fun e _ _ => same (RcvSame.trans (.refl e) (sendData_rcvSame _))
    rcv := fun e s ⟨off, ho⟩ ⟨n, h⟩ => rcvHandleSegment_inv P base read hP e n s off h ho
    snd := fun e s w ts _ => same (sndHandleSegment_rcvSame e s w ts)
    reset := fun e => same (.refl e) }

inductive Ev
  | seg (s : InSeg)
  | read
  | write (d : List Nat)
  | timer
  | shutdownWrite

/-- one event; the second component is what a `Read` returned -/
def evStep (e : Ep) : Ev → Ep × List Nat
  | .seg s => ((handleSegment e s).1, [])
  | .read => ((appRead e).1, match (appRead e).2.1 with | .ok v => v | .error _ => [])
  | .write d => ((appWrite e d).1, [])
  | .timer => ((timerEvent e).1, [])
  | .shutdownWrite => ((appShutdownWrite e).1, [])

/-- a history: final state and everything the application has read, in order -/
def runEvs (e : Ep) (evs : List Ev) : Ep × List Nat :=
  evs.foldl (fun acc ev => ((evStep acc.1 ev).1, acc.2 ++ (evStep acc.1 ev).2)) (e, [])

theorem appRead_inv (P : List Nat) (base : Nat) (read : List Nat) (e : Ep) (n : Nat) (h : RInv P base read e n) :
    RInv P base (read ++ (match (appRead e).2.1 with | .ok v => v | .error _ => [])) (appRead e).1 n := by
  rcases appRead_eq e with ⟨m, he⟩ | ⟨v, rest, hl, he⟩
  · rw [he]; simpa using h
  · have hp : RInv P base (read ++ v) (popRead e v rest) n :=
      ⟨h.nxt, by have := h.got; rw [hl] at this; simpa [popRead, List.append_assoc] using this, h.le, h.pend⟩
    rcases he with he | he <;> rw [he]
    · exact hp
    · exact rinv_of_same hp (sendAck_rcvSame _)

/-- the segments of a history are pieces of the peer's stream -/
def EvsOnStream (P : List Nat) (base : Nat) (evs : List Ev) : Prop :=
  ∀ s, Ev.seg s ∈ evs → ∃ off, OnStream P base s.seq s.data off

theorem evStep_inv (P : List Nat) (base : Nat) (hP : P.length < 2147483648) (read : List Nat) (e : Ep) (n : Nat) (ev : Ev)
    (h : RInv P base read e n) (hon : ∀ s, ev = .seg s → ∃ off, OnStream P base s.seq s.data off) :
    ∃ n', RInv P base (read ++ (evStep e ev).2) (evStep e ev).1 n' := by
  have L := rinv_leaves P base read hP
  cases ev with
  | read => exact ⟨n, appRead_inv P base read e n h⟩
  | seg s => simpa [evStep, handleSegment] using L.handleSegments e [s] (by simpa using hon s rfl) ⟨n, h⟩
  -- `.refl e` at the type `RcvSame e (queueWrite e v)`: the equations hold by `rfl`
  | write d => simpa [evStep] using L.appWrite (fun e v _ _ _ _ ⟨n, h⟩ => ⟨n, rinv_of_same h (.refl e)⟩) e d ⟨n, h⟩
  | timer => simpa [evStep] using L.timerEvent e ⟨n, h⟩
  | shutdownWrite => simpa [evStep] using L.appShutdownWrite e ⟨n, h⟩

theorem runEvs_inv (P : List Nat) (base : Nat) (hP : P.length < 2147483648)
    (e : Ep) (n0 : Nat) (h0 : RInv P base [] e n0) (evs : List Ev) (hon : EvsOnStream P base evs) :
    ∃ n, RInv P base (runEvs e evs).2 (runEvs e evs).1 n :=
  List.foldlRecOn evs _ (motive := fun acc : Ep × List Nat => ∃ n, RInv P base acc.2 acc.1 n) ⟨n0, h0⟩
    fun acc ⟨n, h⟩ ev hev => evStep_inv P base hP acc.2 acc.1 n ev h fun s hs => hon s (hs ▸ hev)

/-- **C01 (receiving direction)**: whatever the network does to the peer's segments (drop, duplicate, reorder, delay,
overlap) and however reads, writes, timeouts and shutdown interleave, the bytes the application has read are at all
times a prefix of the peer's stream.  `base` is arbitrary, so the stream may cross 2^31 and 2^32. -/
theorem reads_are_a_prefix_of_the_peer_stream (P : List Nat) (base : Nat) (hP : P.length < 2147483648)
    (e : Ep) (n0 : Nat) (h0 : RInv P base [] e n0) (evs : List Ev) (hon : EvsOnStream P base evs) :
    (runEvs e evs).2 <+: P := by
  obtain ⟨n, h⟩ := runEvs_inv P base hP e n0 h0 evs hon
  exact ⟨(runEvs e evs).1.rcvList.flatten ++ P.drop n, by rw [← List.append_assoc, h.got, List.take_append_drop]⟩

/-- a connection fresh from the handshake satisfies the invariant at position 0 -/
theorem fresh_endpoint_inv (P : List Nat) (iss irs sndWnd mss : Nat) (sws : Int) (rcvWnd rws mtu rb sb : Nat) (ts : Bool) (rts : Nat) (sp : Bool) :
    RInv P (addS irs 1) [] (newEp iss irs sndWnd mss sws rcvWnd rws mtu rb sb ts rts sp) 0 :=
  ⟨fun _ => (Nat.mod_mod _ _).symm, rfl, Nat.zero_le _, fun _ hs => nomatch hs⟩

/-- non-vacuity: an out-of-order, overlapping delivery of [1..6] starting at sequence number 2^32-2 -/
example :
    let e := newEp 100 4294967293 65535 1460 (-1) 65535 0 1500 65535 65535 false 0 false
    let seg := fun (sq : Nat) (d : List Nat) => Ev.seg ⟨fAck, sq, 101, 65535, [], d⟩
    (runEvs e [seg 0 [3, 4, 5], seg 4294967294 [1, 2, 3], .read, seg 1 [4, 5, 6], .read, .read, .read]).2 = [1, 2, 3, 4, 5, 6] := by
  decide

end Props.C01
