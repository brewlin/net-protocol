import NetProto.Props.C06
import NetProto.Props.C13
/-! C06, continued: ARP packets, Ethernet framing, ICMPv4 echo replies (on top of C13's checksum theorem) and ICMPv6 echo
replies.  Neighbour-discovery messages (ICMPv6 NS/NA) remain covered by the validator and the rebuild correspondence only. -/
namespace Props.C06
open Spec.Rfc Spec.Frame Model.Header Model.Wire

/-- **ARP**: requests and replies the stack builds (`arp.LinkAddressRequest`, the reply of `arp.HandlePacket`) are
well-formed RFC 826 packets for IPv4 over Ethernet carrying exactly the four addresses given -/
theorem arp_packet_valid (op : Nat) (sha spa tha tpa : List Nat) (hop : op = 1 ∨ op = 2)
    (h1 : sha.length = 6) (h2 : spa.length = 4) (h3 : tha.length = 6) (h4 : tpa.length = 4) :
    checkARP (arpPacket op sha spa tha tpa) = [] ∧
    (decodeARP (arpPacket op sha spa tha tpa)).map (fun a => (a.op, a.sha, a.spa, a.tha, a.tpa)) = some (op, sha, spa, tha, tpa) := by
  have hd : decodeARP (arpPacket op sha spa tha tpa) = some ⟨1, 0x0800, 6, 4, op, sha, spa, tha, tpa⟩ :=
    Props.Hdr.decodeARP_arpBuild op sha spa tha tpa (by omega) h1 h2 h3 h4
  rw [checkARP, hd]
  exact ⟨by rcases hop with rfl | rfl <;> rfl, rfl⟩

/-- **Ethernet**: the frame the fd-based endpoint writes carries the given addresses and EtherType in front of the
payload, so it validates iff its payload validates as a packet of that EtherType -/
theorem eth_frame_valid (src dst : List Nat) (ty : Nat) (payload : List Nat) (hs : src.length = 6) (hd : dst.length = 6)
    (ht : ty < 65536) :
    checkEth (ethFrame src dst ty payload) = checkNet ty payload ∧
    (decodeEth (ethFrame src dst ty payload)).map (fun e => (e.dst, e.src, e.etherType)) = some (dst, src, ty) := by
  have hf : ethFrame src dst ty payload = dst ++ src ++ be16 ty ++ payload := by
    rw [ethFrame, Props.Hdr.ethEncode_bytes _ src dst ty (by decide) hs hd, show (zeros 14).drop 14 = [] from rfl,
      List.append_nil]
  have hdrop : (dst ++ src ++ be16 ty ++ payload).drop 14 = payload :=
    List.drop_left' (by simp [hs, hd, be16])
  rw [checkEth, hf, Props.Hdr.decodeEth_bytes src dst payload ty hs hd ht, hdrop]
  exact ⟨rfl, rfl⟩

/-- **ICMPv4 echo reply**: the reply built for any echo request of up to 64 KiB is a valid ICMP message -/
theorem icmp4_echo_reply_valid (msg : List Nat) (fl : Nat) (r : List Nat) (hb : C15.Bytes msg)
    (hlen : msg.length ≤ 65535) (h : Model.Net.echo4Reply msg fl = some r) : checkICMP4 r = [] := by
  have hv := C13.echo4_checksum_valid msg fl r hb hlen h
  have hl : ¬ r.length < 4 := by
    rw [(C13.echo4_mirrors msg fl r h).2.2]
    have := (C13.echo4_only_requests msg fl r h).2
    omega
  simp [checkICMP4, hl, verifies, hv]

/-- **ICMPv6 echo reply**: the reply built for any echo request that fits is a valid ICMPv6 message from the pinged
address back to the requester: its checksum over the IPv6 pseudo header verifies -/
theorem icmp6_echo_reply_valid (src dst msg : List Nat) (fl : Nat) (r : List Nat)
    (hsb : C15.Bytes src) (hdb : C15.Bytes dst) (hmb : C15.Bytes msg) (hs : src.length = 16) (hd : dst.length = 16)
    (hlen : msg.length ≤ 65535) (h : Model.Net.echo6Reply src dst msg fl = some r) : checkICMP6 dst src r = [] := by
  obtain ⟨-, h8, -, rfl⟩ := (C13.echo6Reply_eq_some src dst msg fl r).mp h
  have hc : msg.getD 1 0 < 256 := by
    rw [← List.getElem_eq_getD (h := show 1 < msg.length by omega)]; exact hmb _ (List.getElem_mem _)
  generalize msg.getD 1 0 = c at hc ⊢
  generalize hI : (msg.drop 4).take 4 = I
  have hIl : I.length = 4 := by rw [← hI, List.length_take, List.length_drop]; omega
  have hIb : C15.Bytes I := by rw [← hI]; exact C15.bytes_take _ (C15.bytes_drop _ hmb)
  generalize hR : msg.drop 8 = R
  have hRb : C15.Bytes R := by rw [← hR]; exact C15.bytes_drop _ hmb
  have hRl : R.length ≤ 65527 := by rw [← hR, List.length_drop]; omega
  clear hI hR h8 hmb hlen h
  have hpb : C15.Bytes [129, c] := by simp [C15.bytes_cons, C15.bytes_nil, hc]
  rw [show ([129, c, 0, 0] ++ I).length + R.length = 8 + R.length by simp [hIl]]
  -- the sender's chain of checksums: the pseudo header, the payload, then the header with a zero checksum field
  generalize hs' : C15.wsum dst + C15.wsum src + 58 + (8 + R.length) = s
  have hchain : checksum ([129, c, 0, 0] ++ I) (checksum R (checksum [0, 0, 0, 58] (checksum (be32 (8 + R.length))
      (checksum src (checksum dst 0))))) = C15.ocRep (s + C15.wsum [129, c] + C15.wsum (I ++ R)) := by
    rw [C15.checksum_zero dst hdb (by omega), C15.checksum_rep src _ hsb (by omega),
      C15.checksum_rep _ _ (C15.bytes_be32 _) (show 4 ≤ 131070 by decide),
      C15.checksum_rep [0, 0, 0, 58] _ (by simp [C15.bytes_cons, C15.bytes_nil]) (by decide),
      C15.checksum_rep R _ hRb (by omega),
      C15.checksum_rep _ _ (C15.bytes_append (by simp [C15.bytes_cons, C15.bytes_nil, hc]) hIb) (by simp [hIl]),
      C15.wsum_be32 _ (by omega), C15.wsum_append_even I R (by omega)]
    simp only [List.cons_append, List.nil_append, C15.wsum_cons_cons, C15.wsum_nil]
    refine congrArg C15.ocRep ?_
    omega
  rw [hchain, List.append_assoc _ I R]
  have hrl : ([129, c] ++ be16 (65535 - C15.ocRep (s + C15.wsum [129, c] + C15.wsum (I ++ R))) ++ (I ++ R)).length =
      8 + R.length := by simp [be16, hIl]; omega
  have hver := C15.verifies_fill [129, c] (I ++ R) s (show 2 % 2 = 0 from rfl) hpb (C15.bytes_append hIb hRb)
  rw [checkICMP6, hrl, pseudoSum_eq dst src protoICMPv6 _ hdb hsb (by omega) (Or.inr hd) (by decide) (by omega),
    show C15.wsum dst + C15.wsum src + protoICMPv6 + (8 + R.length) = s from hs']
  rw [if_neg (by omega)]
  simp only [verifies, hver, beq_self_eq_true, ↓reduceIte]

end Props.C06
