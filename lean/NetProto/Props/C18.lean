import NetProto.Generated.Shapes
import NetProto.Model.TMutex
/-!
# C18 — the try-lock mutex: mutual exclusion and no lost wake-up
One model step per atomic or channel operation of `pkg/tmutex`.  `Lock`'s load and swap (`ll`, `ls`) are separate
steps while the code has one schedule point before the pair (`verifLockLoad`): the model can put another goroutine
between them, a forced schedule cannot.
-/
namespace C18
open Model.TMutex

def expect_Init : List String :=
  ["assign[v0 v]", "call[make(,1)]", "assign[v0 ch]"]
def expect_Lock : List String :=
  ["if[(==) atomic AddInt32 & v0 v - 1 0]", "call[atomic AddInt32(& v0 v,- 1)]", "then", "ret[]", "fi", "for",
   "if[(&&) (>=) v1 0 (==) atomic SwapInt32 & v0 v - 1 1]", "call[atomic LoadInt32(& v0 v)]", "assign[v1]",
   "call[atomic SwapInt32(& v0 v,- 1)]", "then", "ret[]", "fi", "recv[v0 ch]", "rof"]
def expect_TryLock : List String :=
  ["call[atomic LoadInt32(& v0 v)]", "assign[v1]", "if[(<=) v1 0]", "then", "ret[false]", "fi",
   "call[atomic CompareAndSwapInt32(& v0 v,1,0)]", "ret[atomic CompareAndSwapInt32 & v0 v 1 0]"]
def expect_Unlock : List String :=
  ["if[(==) atomic SwapInt32 & v0 v 1 0]", "call[atomic SwapInt32(& v0 v,1)]", "then", "ret[]", "fi", "select",
   "send[v0 ch]", "default", "tceles"]

/-- the atomic-operation skeleton the model was written against is the one the code has now (regenerated every run) -/
theorem ir_eq :
    Gen.Shapes.tmutex_Init = expect_Init ∧ Gen.Shapes.tmutex_Lock = expect_Lock ∧
    Gen.Shapes.tmutex_TryLock = expect_TryLock ∧ Gen.Shapes.tmutex_Unlock = expect_Unlock ∧
    Gen.Shapes.tmutex_chancap_ch = 1 :=
  ⟨rfl, rfl, rfl, rfl, rfl⟩

def cnt (p : PC) (l : List PC) : Nat := (l.filter (· == p)).length

theorem cnt_eq_count (q : PC) (l : List PC) : cnt q l = l.count q := List.count_eq_length_filter.symm

/-- the counters with thread `i` taken out: wherever it is put it adds one at its own point -/
theorem cnt_at (l : List PC) (i : Nat) (p : PC) (h : l[i]? = some p) :
    ∃ r : PC → Nat, (∀ q, cnt q l = (if p = q then 1 else 0) + r q) ∧
      ∀ p' q, cnt q (l.set i p') = (if p' = q then 1 else 0) + r q := by
  obtain ⟨hi, rfl⟩ := List.getElem?_eq_some_iff.mp h
  refine ⟨fun q => l.count q - (if l[i] = q then 1 else 0), fun q => ?_, fun p' q => ?_⟩
  all_goals
    have := List.boole_getElem_le_count (a := q) hi
    simp only [cnt_eq_count, List.count_set hi, beq_iff_eq] at this ⊢
    omega

theorem cnt_set (l : List PC) (i : Nat) (p p' q : PC) (h : l[i]? = some p) :
    cnt q (l.set i p') + (if p = q then 1 else 0) = cnt q l + (if p' = q then 1 else 0) := by
  obtain ⟨r, hl, hs⟩ := cnt_at l i p h
  rw [hl q, hs p' q]
  omega

/-- threads that own the mutex: between operations, or about to run Unlock's swap -/
def holders (s : St) : Nat := cnt .held s.pcs + cnt .us s.pcs

def Inv1 (s : St) : Prop := (holders s = 0 ∧ s.v = 1) ∨ (holders s = 1 ∧ s.v ≤ 0)

/-- **Inv2**: a blocked `Lock` is never forgotten -/
def Inv2 (s : St) : Prop :=
  0 < cnt .lr s.pcs → (s.v < 0 ∨ s.tok = true ∨ 0 < cnt .ud s.pcs ∨ 0 < cnt .ll s.pcs ∨ 0 < cnt .ls s.pcs)

theorem inv_init (n : Nat) : Inv1 { pcs := List.replicate n .idle } ∧ Inv2 { pcs := List.replicate n .idle } := by
  have h : ∀ p : PC, p ≠ .idle → cnt p (List.replicate n PC.idle) = 0 := by
    intro p hp
    rw [cnt_eq_count, List.count_replicate, if_neg (by simpa using Ne.symm hp)]
  constructor
  · left; simp [holders, h]
  · intro hl; simp [h] at hl

theorem Inv2_iff (s : St) : Inv2 s ↔
    (0 < cnt .lr s.pcs → s.v < 0 ∨ s.tok = true ∨ 0 < cnt .ud s.pcs + cnt .ll s.pcs + cnt .ls s.pcs) := by
  refine imp_congr_right fun _ => or_congr_right (or_congr_right ?_)
  omega

/-- a step that uses up one of `Inv2`'s reasons for hope (word negative, token, a thread at `ud` / `ll` / `ls`) creates
another; every other step leaves them alone -/
theorem inv_step (s : St) (i : Nat) (h1 : Inv1 s) (h2 : Inv2 s) :
    Inv1 (s.step i).1 ∧ Inv2 (s.step i).1 := by
  obtain ⟨v, tok, pcs⟩ := s
  unfold St.step
  cases hp : pcs[i]? with
  | none => exact ⟨h1, h2⟩
  | some pc =>
    dsimp only
    split
    · rename_i he
      obtain ⟨r, hl, hs⟩ := cnt_at pcs i pc hp
      rw [Inv2_iff] at h2 ⊢
      unfold Inv1 holders at *
      refine ⟨?_, ?_⟩
      · -- who holds, and the word: the token plays no part
        cases pc <;> simp only [stepPC] <;> (try split) <;> simp only [hl, hs, reduceCtorEq, ↓reduceIte, and_true] at h1 ⊢ <;>
          omega
      · -- `omega` knows no Booleans: decide the token first
        cases tok <;> cases pc <;> simp only [stepPC] <;> (try split) <;>
          simp only [hl, hs, reduceCtorEq, ↓reduceIte, enabled, Bool.false_eq_true, eq_self, false_or, true_or, or_true,
            implies_true] at he h1 h2 ⊢ <;> omega
    · exact ⟨h1, h2⟩

/-- starting a call moves a thread between points the invariants count alike -/
theorem inv_start (s : St) (i : Nat) (c : Call) (h1 : Inv1 s) (h2 : Inv2 s) :
    Inv1 (s.start i c) ∧ Inv2 (s.start i c) := by
  obtain ⟨v, tok, pcs⟩ := s
  unfold St.start
  split
  all_goals first
    | exact ⟨h1, h2⟩
    | (rename_i hp
       obtain ⟨r, hl, hs⟩ := cnt_at pcs i _ hp
       unfold Inv1 Inv2 holders at *
       simp only [hl, hs, reduceCtorEq, ↓reduceIte] at h1 h2 ⊢
       exact ⟨by omega, h2⟩)

/-- **Every reachable state satisfies both invariants**: any number of threads, any interleaving (Unlock by the holder). -/
theorem reachable_inv (n : Nat) (acts : List Act) :
    Inv1 (acts.foldl St.act { pcs := List.replicate n .idle }) ∧
    Inv2 (acts.foldl St.act { pcs := List.replicate n .idle }) := by
  refine List.foldlRecOn (motive := fun s => Inv1 s ∧ Inv2 s) acts St.act (inv_init n) fun s h a _ => ?_
  cases a with
  | start i c => exact inv_start s i c h.1 h.2
  | step i => exact inv_step s i h.1 h.2

/-- **Mutual exclusion**: at most one goroutine holds the mutex, in every reachable state. -/
theorem mutual_exclusion (n : Nat) (acts : List Act) :
    holders (acts.foldl St.act { pcs := List.replicate n .idle }) ≤ 1 := by
  have := (reachable_inv n acts).1
  unfold Inv1 at this
  omega

/-- **No lost wake-up**: when a `Lock` is blocked and the mutex is free, the token is there or another thread is on
    its way (after Unlock's swap, or a contender between load and swap). -/
theorem not_stuck (s : St) (h1 : Inv1 s) (h2 : Inv2 s) (hw : 0 < cnt .lr s.pcs) (hfree : holders s = 0) :
    s.tok = true ∨ 0 < cnt .ud s.pcs ∨ 0 < cnt .ll s.pcs ∨ 0 < cnt .ls s.pcs := by
  unfold Inv1 Inv2 at *
  rcases h2 hw with h | h | h | h | h
  · rcases h1 with ⟨_, hv⟩ | ⟨hc, _⟩ <;> omega
  · exact Or.inl h
  · exact Or.inr (Or.inl h)
  · exact Or.inr (Or.inr (Or.inl h))
  · exact Or.inr (Or.inr (Or.inr h))

theorem not_stuck_reachable (n : Nat) (acts : List Act)
    (hw : 0 < cnt .lr (acts.foldl St.act { pcs := List.replicate n .idle }).pcs)
    (hfree : holders (acts.foldl St.act { pcs := List.replicate n .idle }) = 0) :
    let s := acts.foldl St.act { pcs := List.replicate n .idle }
    s.tok = true ∨ 0 < cnt .ud s.pcs ∨ 0 < cnt .ll s.pcs ∨ 0 < cnt .ls s.pcs :=
  not_stuck _ (reachable_inv n acts).1 (reachable_inv n acts).2 hw hfree

/-- an unlock that finds waiters (old value ≠ 0) goes on to send the token -/
theorem unlock_signals (v : Int) (tok : Bool) (h : v ≠ 0) : (stepPC v tok .us).2.2.1 = .ud ∧ (stepPC v tok .ud).2.1 = true := by
  simp [stepPC, h]

/-- TryLock never blocks -/
theorem tryLock_nonblocking (tok : Bool) : enabled tok .tl = true ∧ enabled tok .tc = true := by
  simp [enabled]

/-- TryLock reports success only by the CAS 1→0, when nobody held the mutex -/
theorem tryLock_sound (s : St) (i : Nat) (h1 : Inv1 s) (hev : (s.step i).2 = .tryTrue) :
    s.pcs[i]? = some .tc ∧ s.v = 1 ∧ holders s = 0 ∧ (s.step i).1.v = 0 := by
  unfold St.step at hev ⊢
  cases hp : s.pcs[i]? with
  | none => simp [hp] at hev
  | some pc =>
    simp only [hp] at hev ⊢
    by_cases he : enabled s.tok pc = true
    · simp only [he, if_true] at hev ⊢
      cases pc <;> simp only [stepPC] at hev ⊢ <;> (try split at hev) <;> simp at hev
      rename_i hv
      unfold Inv1 at h1
      refine ⟨trivial, hv, by omega, ?_⟩
      simp [hv]
    · simp [he] at hev

/-- TryLock succeeds when the mutex is free and nobody moves between its load and CAS -/
theorem tryLock_complete (s : St) (i : Nat) (hi : s.pcs[i]? = some .tl) (hv : s.v = 1) :
    ((s.step i).1.step i).2 = .tryTrue := by
  obtain ⟨hlen, _⟩ := List.getElem?_eq_some_iff.mp hi
  have h1 : s.step i = ({ v := s.v, tok := s.tok, pcs := s.pcs.set i .tc }, .none) := by
    simp [St.step, hi, enabled, stepPC, show ¬ s.v ≤ 0 by omega]
  rw [h1]
  unfold St.step
  have h2 : (s.pcs.set i .tc)[i]? = some .tc := by simp [hlen]
  simp only [h2, enabled, if_true, stepPC, hv]

/-- three threads; 0 locks, 1 contends and blocks, 0 unlocks and signals, 1 acquires -/
example :
    let acts : List Act := [.start 0 .lock, .step 0, .start 1 .lock, .step 1, .step 1, .step 1,
      .start 0 .unlock, .step 0, .step 0, .step 1, .step 1, .step 1]
    let s := acts.foldl St.act { pcs := List.replicate 3 .idle }
    s.pcs = [.idle, .held, .idle] ∧ s.v = -1 := by decide

end C18
