import NetProto.Props.TcpReachQ
/-! `TcpReachQ` with no assumption on the incoming segments. -/
namespace Props.TcpReach
open Model.Tcp

structure EpInv (P : Ep → Prop) : Prop where
  fresh : ∀ iss irs sndWnd mss sws rcvWnd rws mtu rb sb ts rts sp,
    P (newEp iss irs sndWnd mss sws rcvWnd rws mtu rb sb ts rts sp)
  dflt : P default
  failed : ∀ err, P (failedEp err)
  segs : ∀ e l, P e → P (handleSegments e l).1
  write : ∀ e d, P e → P (appWrite e d).1
  read : ∀ e, P e → P (appRead e).1
  shut : ∀ e, P e → P (appShutdownWrite e).1
  timer : ∀ e, P e → P (timerEvent e).1

def StAll (P : Ep → Prop) (st : St) : Prop := (∀ x ∈ st.eps, P x.2) ∧ (∀ x ∈ st.acceptQ, P x.2.1)

theorem find_mem {α} (l : List α) (p : α → Bool) (x : α) (h : l.find? p = some x) : x ∈ l := List.mem_of_find?_eq_some h

theorem getElem?_mem' {α} (l : List α) (i : Nat) (x : α) (h : l[i]? = some x) : x ∈ l := List.mem_of_getElem? h

theorem EpInv.toQ {P : Ep → Prop} (hP : EpInv P) : TcpReachQ.EpInvQ (fun _ => True) P :=
  ⟨hP.fresh, hP.dflt, hP.failed, fun e l _ => hP.segs e l, hP.write, hP.read, hP.shut, hP.timer⟩

theorem EpInv.ofQ {P : Ep → Prop} (h : TcpReachQ.EpInvQ (fun _ => True) P) : EpInv P :=
  ⟨h.fresh, h.dflt, h.failed, fun e l => h.segs e l fun _ _ => trivial, h.write, h.read, h.shut, h.timer⟩

theorem run_all {P : Ep → Prop} (hP : EpInv P) (c : Cfg) (ops : List Op) : StAll P (run c ops).1 :=
  have h := TcpReachQ.run_allQ hP.toQ c ops (fun op _ => by cases op <;> trivial)
  ⟨h.1, fun x hx => (h.2 x hx).1⟩

end Props.TcpReach
