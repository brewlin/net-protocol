import NetProto.Model.Tcp
import NetProto.Props.C14
/-! The sequence arithmetic of `Model.Tcp` as forward distances `sizeS`; the only file that unfolds `sizeS`, `addS`, `subS`.
The lemmas spell `4294967296` and `2147483648` out instead of `M`: `omega` needs literals. -/
namespace Props.TcpLemmas
open Model.Tcp

theorem bv_fwd (a b : Nat) : C14.fwd (bv a) (bv b) = sizeS a b := by
  unfold C14.fwd bv sizeS M
  simp only [BitVec.toNat_sub, BitVec.toNat_ofNat, Nat.reducePow]
  omega

/-- The upper bound is inclusive: at distance exactly 2^31 each of two numbers precedes the other (`C14`).  So every
stream bound in the TCP files is `< 2^31`: then distances stay below it and `lt` is the order of the offsets. -/
theorem lt_iff (a b : Nat) : lt a b = true ↔ (1 ≤ sizeS a b ∧ sizeS a b ≤ 2147483648) := by
  unfold lt
  rw [C14.model_eq_generated.1]
  have h := C14.lessThan_iff (bv a) (bv b)
  rw [bv_fwd] at h
  simpa using h

theorem inWindow_iff (v f s : Nat) : inWindow v f s = true ↔ sizeS f v < s % 4294967296 := by
  unfold inWindow
  rw [C14.model_eq_generated.2.2.2.1]
  have h := C14.inWindow_iff (bv v) (bv f) (bv s)
  rw [bv_fwd] at h
  simpa [bv] using h

theorem inRange_iff (v a b : Nat) : inRange v a b = true ↔ sizeS a v < sizeS a b := by
  unfold inRange
  rw [C14.model_eq_generated.2.2.1]
  have h := C14.inRange_iff (bv v) (bv a) (bv b)
  rw [bv_fwd, bv_fwd] at h
  exact h

/-! The model's sequence numbers are `C14`'s read through `bv`: `addS g k` is `C14.seqOf (bv g) k`, the number of stream
offset `k` on a connection that starts at `g` (`bv_addS`), and `sizeS` is `C14.fwd` (`bv_fwd`).  So a number `q` *stands
for offset `k`* when `q % 2^32 = addS g k` (`C01.Core.una`, `nxt`, `entryOk`), distances between such numbers are
distances of offsets (`sizeS_offsets`), and from one such number every number stands for an offset (`addS_sizeS`). -/

theorem bv_addS (g k : Nat) : bv (addS g k) = C14.seqOf (bv g) k := by
  unfold bv addS M C14.seqOf
  rw [← BitVec.ofNat_add]
  exact BitVec.eq_of_toNat_eq (by simp)

theorem sizeS_lt_M (a b : Nat) : sizeS a b < 4294967296 := bv_fwd a b ▸ C14.fwd_lt _ _

theorem sizeS_self (a : Nat) : sizeS a a = 0 := bv_fwd a a ▸ C14.fwd_self _

theorem sizeS_trans (a b c : Nat) : sizeS a c = (sizeS a b + sizeS b c) % 4294967296 := by
  rw [← bv_fwd, ← bv_fwd, ← bv_fwd]
  exact C14.fwd_trans _ _ _

theorem sizeS_swap (a b : Nat) : sizeS b a = (4294967296 - sizeS a b) % 4294967296 := by
  rw [← bv_fwd, ← bv_fwd]
  exact C14.fwd_swap _ _

theorem sizeS_addS_addS (g a b : Nat) : sizeS (addS g a) (addS g b) = (b + (4294967296 - a % 4294967296)) % 4294967296 := by
  rw [← bv_fwd, bv_addS, bv_addS]
  exact C14.fwd_seqOf _ _ _

theorem sizeS_offsets (g a b : Nat) (h : a ≤ b) : sizeS (addS g a) (addS g b) = (b - a) % 4294967296 := by
  rw [sizeS_addS_addS]
  omega

theorem sizeS_fwd (g a b : Nat) (h : a ≤ b) (hb : b - a < 4294967296) : sizeS (addS g a) (addS g b) = b - a := by
  rw [sizeS_offsets g a b h, Nat.mod_eq_of_lt hb]

theorem sizeS_bwd (g a b : Nat) (h : b < a) (hb : a - b < 4294967296) : sizeS (addS g a) (addS g b) = 4294967296 - (a - b) := by
  rw [sizeS_addS_addS]
  omega

theorem addS_mod (a k : Nat) : addS (a % 4294967296) k = addS a k := Nat.mod_add_mod a _ k

theorem addS_addS (a x y : Nat) : addS (addS a x) y = addS a (x + y) := by
  unfold addS
  rw [Nat.mod_add_mod, Nat.add_assoc]

theorem sizeS_mod (a b : Nat) : sizeS (a % 4294967296) b = sizeS a b := by
  unfold sizeS M
  rw [Nat.mod_mod]

theorem sizeS_mod_right (a b : Nat) : sizeS a (b % 4294967296) = sizeS a b := by
  rw [← bv_fwd, ← bv_fwd]
  exact congrArg (C14.fwd _) (BitVec.eq_of_toNat_eq (by simp [bv]))

theorem sizeS_addS (a k : Nat) (hk : k < 4294967296) : sizeS a (addS a k) = k := by
  rw [← bv_fwd, bv_addS]
  exact (C14.add_fwd (bv a) (BitVec.ofNat 32 k)).trans (by simpa using hk)

/-- `C14.add_size`: from a number that stands for offset `i`, `q` stands for `i` plus its distance -/
theorem addS_sizeS (g a i q : Nat) (h : a % 4294967296 = addS g i) : q % 4294967296 = addS g (i + sizeS a q) := by
  rw [← addS_addS, ← h, addS_mod]
  unfold addS sizeS M
  omega

theorem subS_one (q : Nat) : subS q 1 = addS q 4294967295 := by
  unfold subS addS M
  omega

theorem sizeS_subS_one (a q : Nat) : sizeS a (subS q 1) = (sizeS a q + 4294967295) % 4294967296 := by
  rw [subS_one, sizeS_trans a q, sizeS_addS _ _ (by decide)]

theorem sizeS_one_subS (p q : Nat) : sizeS (subS p 1) q = (sizeS p q + 1) % 4294967296 := by
  rw [sizeS_trans _ p, sizeS_swap p, subS_one, sizeS_addS _ _ (by decide), Nat.add_comm]

theorem dupack_not_new (una nxt : Nat) : inRange (subS una 1) una nxt = false := by
  have := sizeS_lt_M una nxt
  rw [← Bool.not_eq_true, inRange_iff, sizeS_subS_one, sizeS_self]
  omega

end Props.TcpLemmas
