import NetProto.Props.C05
import NetProto.Props.TcpShape
/-! C05, cumulative window bound: with the Reno controller the number of segments in flight never exceeds 10 plus one
per segment acknowledged or duplicate ACK received so far, as an invariant of every endpoint handler lifted to every
reachable state.  The credits are two ghost counters of the model (`gAcked`, `gDup`, never read by it);
`acked_counts_removed_segments` and `dup_counts_duplicate_acks` say what they count.  `WInv`, with B = 10 + credits: in
flight ≤ B, window + whole windows of counted ACKs ≤ B, `ssthresh` ≤ B/2 once finite, counted ACKs < B. -/
namespace Props.C05
open Model.Tcp Props.TcpFrame Props.TcpShape Props.TcpReach

/-- 10 is the initial window (`InitialCwnd`, tied to the source by `initial_window`) -/
def bound (s : Snd) : Nat := 10 + s.gAcked + s.gDup

/-- `out` and `pot` are the bound.  `ss` and `ca` re-establish `pot` where the window is set from `ssthresh` while `caAck`
stays (entering and leaving fast recovery); `fr` says `ss` is there to be used then. -/
structure WInv (s : Snd) : Prop where
  out : s.outstanding ≤ (bound s : Int)
  pot : s.cwnd + s.caAck / s.cwnd ≤ bound s
  pos : 0 < s.cwnd
  ss : s.ssInf = false → 2 ≤ s.ssthresh ∧ 2 * s.ssthresh ≤ bound s
  fr : s.fr.active = true → s.ssInf = false
  ca : s.caAck + 1 ≤ bound s

theorem winv_mono {s s' : Snd} (w : WInv s)
    (h : (s'.cwnd, s'.caAck, s'.ssthresh, s'.ssInf, s'.fr) = (s.cwnd, s.caAck, s.ssthresh, s.ssInf, s.fr))
    (hb : bound s ≤ bound s') (ho : s'.outstanding ≤ s.outstanding) : WInv s' := by
  simp only [Prod.mk.injEq] at h
  obtain ⟨h1, h2, h3, h4, h5⟩ := h
  refine ⟨Int.le_trans ho (Int.le_trans w.out (Int.ofNat_le.mpr hb)), by rw [h1, h2]; exact Nat.le_trans w.pot hb,
    by rw [h1]; exact w.pos, ?_, by rw [h5, h4]; exact w.fr, by rw [h2]; exact Nat.le_trans w.ca hb⟩
  rw [h4, h3]
  exact fun h => ⟨(w.ss h).1, Nat.le_trans (w.ss h).2 hb⟩

theorem winv_same {s s' : Snd} (w : WInv s)
    (h : (s'.cwnd, s'.caAck, s'.ssthresh, s'.ssInf, s'.fr, s'.gAcked, s'.gDup, s'.outstanding) =
      (s.cwnd, s.caAck, s.ssthresh, s.ssInf, s.fr, s.gAcked, s.gDup, s.outstanding)) : WInv s' := by
  simp only [Prod.mk.injEq] at h
  exact winv_mono w (by simp only [h]) (by simp only [bound, h]; exact Nat.le_refl _) (by rw [h.2.2.2.2.2.2.2]; exact Int.le_refl _)

theorem winv_of_sndSame {e e' : Ep} (h : SndSame e e') (w : WInv e.snd) : WInv e'.snd := by
  obtain ⟨m, hm⟩ := h.snd
  rw [hm]
  exact winv_same w rfl

/-- `outstanding` grows only through the gate -/
theorem sendData_inv (e : Ep) (w : WInv e.snd) : WInv (sendData e).1.snd := by
  obtain ⟨_, _, hout, _⟩ := sendData_flight e
  obtain ⟨_, _, _, _, o, _, _, _, _, h⟩ := sendData_sendOnly e
  rw [h] at hout ⊢
  refine ⟨?_, w.pot, w.pos, w.ss, w.fr, w.ca⟩
  have hc : (e.snd.cwnd : Int) ≤ (bound e.snd : Int) := Int.ofNat_le.mpr (Nat.le_trans (Nat.le_add_right _ _) w.pot)
  exact hout.elim (fun h => Int.le_trans h w.out) (fun h => Int.le_trans h hc)

theorem leaveFR_inv (s : Snd) (w : WInv s) (ha : s.fr.active = true) : WInv (leaveFastRecovery s) := by
  have hs := w.ss (w.fr ha)
  have hca := w.ca
  refine ⟨w.out, ?_, ?_, w.ss, ?_, w.ca⟩
  · show s.ssthresh + s.caAck / s.ssthresh ≤ bound s
    have := Nat.div_le_div_left (a := s.caAck) hs.1 (by decide : 0 < 2)
    generalize s.caAck / s.ssthresh = q at *
    generalize bound s = B at *
    omega
  · show 0 < s.ssthresh
    omega
  · intro h; simp [leaveFastRecovery] at h

theorem bound_ge (s : Snd) : 10 ≤ bound s := by unfold bound; omega

theorem reduceSsthresh_le (s : Snd) (B : Nat) (ho : s.outstanding ≤ (B : Int)) (hB : 4 ≤ B) :
    2 ≤ (reduceSsthresh s).ssthresh ∧ 2 * (reduceSsthresh s).ssthresh ≤ B := by
  simp only [reduceSsthresh]
  split
  · split <;> omega
  · split
    · omega
    · have : (s.outstanding.toNat : Int) = s.outstanding := Int.toNat_of_nonneg (by omega)
      generalize s.outstanding.toNat = o at *
      omega

/-- `11 ≤ bound` because the duplicate that triggers fast recovery has been credited already -/
theorem enterFR_inv (s : Snd) (w : WInv s) (h11 : 11 ≤ bound s) : WInv (enterFastRecovery (reduceSsthresh s)) := by
  have hca := w.ca
  obtain ⟨h2, hB⟩ := reduceSsthresh_le s (bound s) w.out (by omega)
  have hr : reduceSsthresh s = { s with ssthresh := (reduceSsthresh s).ssthresh, ssInf := false } := rfl
  generalize (reduceSsthresh s).ssthresh = t at hr h2 hB
  rw [hr]
  refine ⟨w.out, ?_, Nat.succ_pos _, fun _ => ⟨h2, hB⟩, fun _ => rfl, w.ca⟩
  show t + 3 + s.caAck / (t + 3) ≤ bound s
  have := Nat.div_le_div_left (a := s.caAck) (show 5 ≤ t + 3 by omega) (by decide)
  generalize s.caAck / (t + 3) = q at *
  generalize bound s = B at *
  omega

theorem winv_dup (s : Snd) (w : WInv s) : WInv { s with gDup := s.gDup + 1 } :=
  winv_mono w rfl (by simp only [bound]; omega) (Int.le_refl _)

theorem inflate_inv (s : Snd) (w : WInv s) : WInv { s with cwnd := s.cwnd + 1, gDup := s.gDup + 1 } := by
  have hb : bound { s with cwnd := s.cwnd + 1, gDup := s.gDup + 1 } = bound s + 1 := by simp [bound]; omega
  refine ⟨?_, ?_, Nat.succ_pos _, ?_, w.fr, ?_⟩
  · rw [hb]; have := w.out; show s.outstanding ≤ _; omega
  · rw [hb]
    show s.cwnd + 1 + s.caAck / (s.cwnd + 1) ≤ bound s + 1
    have := Nat.div_le_div_left (a := s.caAck) (Nat.le_succ s.cwnd) w.pos
    have := w.pot
    generalize s.caAck / (s.cwnd + 1) = q1 at *
    generalize s.caAck / s.cwnd = q0 at *
    omega
  · intro h; have := w.ss h; rw [hb]; exact ⟨this.1, by show 2 * s.ssthresh ≤ _; omega⟩
  · rw [hb]; have := w.ca; show s.caAck + 1 ≤ _; omega

theorem checkDuplicateAck_inv (s : Snd) (ack len wnd : Nat) (w : WInv s) : WInv (checkDuplicateAck s ack len wnd).1 := by
  have h := cda_case s ack len wnd
  generalize checkDuplicateAck s ack len wnd = c at h
  have w1 : WInv { s with gDup := s.gDup + 1 } := winv_dup s w
  cases h with
  | outside | other => exact w
  | leave ha => exact leaveFR_inv s w ha
  | inflate =>
    split
    · exact inflate_inv s w
    · exact w1
  -- `fr.first` changes: `WInv` reads only `fr.active`
  | partialAck => exact ⟨w.out, w.pot, w.pos, w.ss, w.fr, w.ca⟩
  | reset => exact winv_same w rfl
  | count | stale => exact winv_same w1 rfl
  | enter =>
    have := enterFR_inv _ w1 (by have := bound_ge s; simp only [bound] at *; omega)
    exact winv_same this rfl

theorem renoUpdate_inv (s : Snd) (d : Nat) (w : WInv s) (hp : pot s + d ≤ bound s) : WInv (renoUpdate s d) := by
  obtain ⟨p, pos, c⟩ := renoUpdate_spec s d w.pos
  obtain ⟨cw, ca, h⟩ := renoUpdate_same s d
  rw [h] at p pos c ⊢
  have p : cw + ca / cw ≤ pot s + d := p
  have c : ca < cw ∨ ca = s.caAck := c
  refine ⟨w.out, Nat.le_trans p hp, pos, w.ss, w.fr, ?_⟩
  show ca + 1 ≤ bound s
  rcases c with c | c
  · generalize ca / cw = q at p
    omega
  · rw [c]; exact w.ca

/-- the `k` segments the loop removed are `k` credits, which `renoState.Update(k)` may use -/
theorem ackFinish_inv (S A : Snd) (k : Nat) (wl : List WSeg) (wn : Nat) (w : WInv S)
    (hA : A = { S with writeList := wl, writeNext := wn, outstanding := S.outstanding - k, gAcked := S.gAcked + k }) :
    WInv (ackFinish S.outstanding A) := by
  have wA : WInv A := by
    rw [hA]
    exact winv_mono w rfl (by simp only [bound]; omega) (by show S.outstanding - k ≤ S.outstanding; omega)
  have hp : pot A + k ≤ bound A := by
    have := w.pot
    rw [hA]
    show S.cwnd + S.caAck / S.cwnd + k ≤ 10 + (S.gAcked + k) + S.gDup
    simp only [bound] at this
    omega
  have hd : (if S.outstanding - A.outstanding < 0 then 0 else (S.outstanding - A.outstanding).toNat) = k := by
    rw [hA]
    show (if S.outstanding - (S.outstanding - k) < 0 then 0 else (S.outstanding - (S.outstanding - k)).toNat) = k
    split <;> omega
  have w2 : WInv (if !A.fr.active then renoUpdate A k else A) := by
    split
    · exact renoUpdate_inv A k wA hp
    · exact wA
  unfold ackFinish
  rw [hd]
  dsimp only
  generalize (if !A.fr.active then renoUpdate A k else A) = B at w2 ⊢
  split
  · exact ⟨by show (0 : Int) ≤ _; omega, w2.pot, w2.pos, w2.ss, w2.fr, w2.ca⟩
  · exact w2

theorem ackAdvance_inv (s : Snd) (ack : Nat) (w : WInv s) : WInv (ackAdvance s ack) := by
  rw [ackAdvance_eq, ackLoop_list (s.writeList.length + 1) (ackStart s ack) _ (Nat.lt_succ_self s.writeList.length)]
  exact ackFinish_inv (ackStart s ack) _ _ _ _ (winv_same w rfl) rfl

theorem sndPrepare_inv (e : Ep) (seg : InSeg) (wnd : Nat) (ts : Model.Header.TCPOpts) (w : WInv e.snd) :
    WInv (sndPrepare e seg wnd ts).1.snd := by
  obtain ⟨r, bu, c, T, hc, hT, h⟩ := sndPrepare_eq e seg wnd ts
  have wc : WInv c.1 := hc ▸ checkDuplicateAck_inv e.snd seg.ack seg.logicalLen wnd w
  have ws : WInv (wndUpdate c.1 wnd) := winv_same wc rfl
  have w1 : WInv T := by
    rw [hT]
    split
    · exact ackAdvance_inv _ _ ws
    · exact ws
  rw [h]
  split
  · exact winv_of_sndSame (resendSegment_sndSame _) w1
  · exact w1

/-- **C05 (window bound, one incoming segment)**: handling an acknowledgement and then sending keeps the congestion
bookkeeping within 10 + credits -/
theorem sndHandleSegment_inv (e : Ep) (seg : InSeg) (wnd : Nat) (ts : Model.Header.TCPOpts) (w : WInv e.snd) :
    WInv (sndHandleSegment e seg wnd ts).1.snd :=
  sendData_inv _ (sndPrepare_inv e seg wnd ts w)

theorem collapse_inv (t : Snd) (w : WInv t) (l : Nat) :
    WInv { reduceSsthresh { t with fr := { t.fr with last := l } } with cwnd := 1, outstanding := 0, writeNext := 0 } := by
  have hb := bound_ge t
  have hca := w.ca
  have hth := reduceSsthresh_le { t with fr := { t.fr with last := l } } (bound t) w.out (by omega)
  have hr : reduceSsthresh { t with fr := { t.fr with last := l } } =
      { t with fr := { t.fr with last := l }, ssthresh := (reduceSsthresh { t with fr := { t.fr with last := l } }).ssthresh, ssInf := false } := rfl
  generalize (reduceSsthresh { t with fr := { t.fr with last := l } }).ssthresh = x at hr hth
  rw [hr]
  refine ⟨by show (0 : Int) ≤ _; omega, ?_, Nat.one_pos, fun _ => hth, fun _ => rfl, w.ca⟩
  show 1 + t.caAck / 1 ≤ bound t
  rw [Nat.div_one]; omega

theorem rtoState_inv (s : Snd) (w : WInv s) : WInv (rtoState s) := by
  have w1 : WInv { s with timerEnabled := false } := winv_same w rfl
  unfold rtoState
  simp only
  split
  · rename_i h; exact collapse_inv _ (leaveFR_inv _ w1 h) _
  · exact collapse_inv _ w1 _

theorem winv_fresh (s : Snd) (h1 : s.cwnd = 10) (h2 : s.caAck = 0) (h3 : s.ssInf = true) (h4 : s.fr.active = false)
    (h5 : s.outstanding = 0) (h6 : s.gAcked = 0) (h7 : s.gDup = 0) : WInv s := by
  have hb : bound s = 10 := by simp [bound, h6, h7]
  refine ⟨by rw [h5, hb]; decide, by rw [h1, h2, hb]; decide, by rw [h1]; decide, ?_, ?_, by rw [h2, hb]; decide⟩
  · intro h; rw [h3] at h; cases h
  · intro h; rw [h4] at h; cases h

theorem window_leaves : SegLeaves (fun _ => True) (fun e r => WInv e.snd → WInv r.1.snd) where
  toSteps := Steps.inv fun e => WInv e.snd
  send := sendData_inv
  ack := fun e => winv_of_sndSame (sendAck_sndSame e)
  close := fun e => winv_of_sndSame (closeIfDone_sndSame e)
  fin := fun _ _ _ w => winv_same w rfl
  shut := fun _ w => winv_same w rfl
  rto := fun e _ _ w => sendData_inv _ (rtoState_inv e.snd w)
  rcv := fun e s _ => winv_of_sndSame (rcvHandleSegment_rcvOnly e s).snd
  snd := fun e s w ts _ => sndHandleSegment_inv e s w ts
  reset := fun _ w => w

theorem window_inv : EpInv (fun e => WInv e.snd) :=
  .ofQ (window_leaves.epInvQ (write := fun _ _ _ _ _ _ w => winv_same w rfl) (read := fun _ _ _ _ w => w)
    (fresh := by intros; exact winv_fresh _ rfl rfl rfl rfl rfl rfl rfl)
    (dflt := winv_fresh _ rfl rfl rfl rfl rfl rfl rfl) (failed := fun _ => winv_fresh _ rfl rfl rfl rfl rfl rfl rfl))

/-- `gAcked` grows by exactly the number of write-list segments an acknowledgement removes (for any fuel, hence by its
own induction: `ackLoop_list` needs fuel for the whole list) -/
theorem acked_counts_removed_segments (fuel : Nat) (s : Snd) (ackLeft : Nat) :
    (ackLoop fuel s ackLeft).writeList.length + ((ackLoop fuel s ackLeft).gAcked - s.gAcked) = s.writeList.length ∧
    s.gAcked ≤ (ackLoop fuel s ackLeft).gAcked := by
  -- cases in the branch order of `ackLoop` (4: the head entry is trimmed, 5: it is removed), binders positional
  fun_induction ackLoop fuel s ackLeft
  case case4 hwl _ _ => exact ⟨by simp [hwl], Nat.le_refl _⟩
  case case5 hwl _ _ _ ih =>
    simp only [hwl, List.length_cons] at ih ⊢
    omega
  all_goals exact ⟨by simp, Nat.le_refl _⟩

/-- `gDup` grows by at most one per segment, and only for a duplicate acknowledgement: no payload, no window change,
acknowledging `sndUna` (the recovery point during fast recovery) -/
theorem dup_counts_duplicate_acks (s : Snd) (ack len wnd : Nat) :
    (checkDuplicateAck s ack len wnd).1.gDup ≤ s.gDup + 1 ∧ s.gDup ≤ (checkDuplicateAck s ack len wnd).1.gDup ∧
    ((checkDuplicateAck s ack len wnd).1.gDup = s.gDup + 1 →
      len = 0 ∧ s.sndWnd = wnd ∧ (if s.fr.active then ack = s.fr.first else ack = s.sndUna)) := by
  have h := cda_case s ack len wnd
  generalize checkDuplicateAck s ack len wnd = c at h
  have same : ∀ P : Prop, s.gDup ≤ s.gDup + 1 ∧ s.gDup ≤ s.gDup ∧ (s.gDup = s.gDup + 1 → P) :=
    fun _ => ⟨Nat.le_succ _, Nat.le_refl _, fun h => absurd h (Nat.ne_of_lt (Nat.lt_succ_self _))⟩
  have more : ∀ P : Prop, P → s.gDup + 1 ≤ s.gDup + 1 ∧ s.gDup ≤ s.gDup + 1 ∧ (s.gDup + 1 = s.gDup + 1 → P) :=
    fun _ p => ⟨Nat.le_refl _, Nat.le_succ _, fun _ => p⟩
  cases h with
  | outside | other | leave | partialAck | reset => exact same _
  | inflate ha _ _ hl hw hf =>
    split <;> exact more _ ⟨hl, hw, hf⟩
  | count ha hu hl hw | stale ha hu hl hw | enter ha hu hl hw => exact more _ ⟨hl, hw, (if_neg (by simp [ha])).mpr hu⟩

/-- **C05 (cumulative window bound)**: in every state the stack can reach, on every connection, the segments counted in
flight and the congestion window are at most 10 plus one per write-list segment acknowledged plus one per duplicate
ACK received so far -/
theorem in_flight_within_credits (c : Cfg) (ops : List Op) :
    StAll (fun e => e.snd.outstanding ≤ ((10 + e.snd.gAcked + e.snd.gDup : Nat) : Int) ∧
                    e.snd.cwnd ≤ 10 + e.snd.gAcked + e.snd.gDup) (run c ops).1 := by
  have h := run_all window_inv c ops
  exact ⟨fun x hx => ⟨(h.1 x hx).out, Nat.le_trans (Nat.le_add_right _ _) (h.1 x hx).pot⟩,
         fun x hx => ⟨(h.2 x hx).out, Nat.le_trans (Nat.le_add_right _ _) (h.2 x hx).pot⟩⟩

end Props.C05
