import NetProto.Props.C20Lemmas
import NetProto.Generated.Shapes
import NetProto.Generated.Consts
/-! C20: HTTP requests and WebSocket messages survive the round trip.
Models: `Model/Http.lean`, `Model/Ws.lean`; independent RFC 6455 / RFC 3174 / RFC 4648 reading: `Spec/Ws.lean`. -/
namespace Props.C20
open Model.Http

def supported (m : Bytes) : Prop := m = str "GET" ∨ m = str "HEAD" ∨ m = str "POST" ∨ m = str "PUT"

theorem buildRequest_message (m u body : Bytes) (hs : List (Bytes × Bytes)) (hm : m ≠ []) :
    buildRequest m u hs body = message m u (str "HTTP/1.1") hs body := by
  simp [buildRequest, message, hm]

/-- `set_status_code(501)` for POST and PUT replaces only a status that is still zero, so the status stays 200 -/
theorem supported_ok (m : Bytes) (h : supported m) : okTok m ∧ lineStatus 200 m (str "HTTP/1.1") = 200 := by
  rcases h with rfl | rfl | rfl | rfl <;> decide

/-- **request round trip**: what the bundled client writes for (method, path, headers, body) the server parses into
exactly these, with the connection's status left at 200 -/
theorem http_request_roundtrip (m u body : Bytes) (hs : List (Bytes × Bytes))
    (hm : supported m) (hu : okTok u) (hh : ∀ h ∈ hs, okKey h.1 ∧ okVal h.2) :
    parse 200 (buildRequest m u hs body)
      = { method := m, uri := u, version := str "HTTP/1.1", headers := hs, body := body, status := 200 } := by
  obtain ⟨ht, hst⟩ := supported_ok m hm
  rw [buildRequest_message m u body hs ht.1, parse_message 200 m u _ body hs ht hu (by decide) hh, hst]

/-- the header map the handler queries finds every header sent, keys being distinct -/
theorem lookup_finds (hs : List (Bytes × Bytes)) (k v : Bytes) (hmem : (k, v) ∈ hs)
    (hd : hs.Pairwise (fun x y => x.1 ≠ y.1)) : lookup hs k = some v := by
  -- in the reversed list too `(k, v)` is the only entry with key `k`, so the search stops at it
  have hr : hs.reverse.Pairwise (fun x y => x.1 ≠ y.1) := List.pairwise_reverse.mpr (hd.imp Ne.symm)
  have hm : (k, v) ∈ hs.reverse := List.mem_reverse.mpr hmem
  unfold lookup
  generalize hs.reverse = l at hr hm
  induction l with
  | nil => cases hm
  | cons x xs ih =>
    obtain ⟨hx, hxs⟩ := List.pairwise_cons.mp hr
    rcases List.mem_cons.mp hm with rfl | hm
    · simp
    · rw [List.find?_cons_of_neg (by simpa using hx _ hm), ih hxs hm]

/-- **dispatch**: a registered path runs its handler on exactly the request sent; the response carries the handler's
status (200 when it set none) and, with 200, its body -/
theorem serve_registered (mux : List Bytes) (handler : Parsed → Nat × Bytes) (m u body : Bytes) (hs : List (Bytes × Bytes))
    (hm : supported m) (hu : okTok u) (hh : ∀ h ∈ hs, okKey h.1 ∧ okVal h.2) (hreg : u ∈ mux) :
    let req : Parsed := { method := m, uri := u, version := str "HTTP/1.1", headers := hs, body := body, status := 200 }
    let st := if (handler req).1 ≠ 0 then (handler req).1 else 200
    serve mux handler (buildRequest m u hs body)
      = { invoked := some req, status := st,
          body := if st ≠ 200 then defaultErrMsg else if (handler req).2 = [] then defaultSuccessMsg else (handler req).2 } := by
  intro req st
  unfold serve
  rw [http_request_roundtrip m u body hs hm hu hh]
  simp [hreg, req, st]

/-- the status a handler sets through `Response.Error` is the status of the response -/
theorem handler_status_delivered (mux : List Bytes) (handler : Parsed → Nat × Bytes) (m u body : Bytes)
    (hs : List (Bytes × Bytes)) (hm : supported m) (hu : okTok u) (hh : ∀ h ∈ hs, okKey h.1 ∧ okVal h.2) (hreg : u ∈ mux)
    (hc : (handler { method := m, uri := u, version := str "HTTP/1.1", headers := hs, body := body, status := 200 }).1 ≠ 0) :
    (serve mux handler (buildRequest m u hs body)).status
      = (handler { method := m, uri := u, version := str "HTTP/1.1", headers := hs, body := body, status := 200 }).1 := by
  rw [serve_registered mux handler m u body hs hm hu hh hreg]; simp [hc]

/-- known finding: with any status but 200 the handler's body is replaced by the standard error page -/
theorem error_status_replaces_body (mux : List Bytes) (handler : Parsed → Nat × Bytes) (m u body : Bytes)
    (hs : List (Bytes × Bytes)) (hm : supported m) (hu : okTok u) (hh : ∀ h ∈ hs, okKey h.1 ∧ okVal h.2) (hreg : u ∈ mux)
    (hc : (handler { method := m, uri := u, version := str "HTTP/1.1", headers := hs, body := body, status := 200 }).1 ≠ 0)
    (h2 : (handler { method := m, uri := u, version := str "HTTP/1.1", headers := hs, body := body, status := 200 }).1 ≠ 200) :
    (serve mux handler (buildRequest m u hs body)).body = defaultErrMsg := by
  rw [serve_registered mux handler m u body hs hm hu hh hreg]; simp [hc, h2]

/-- no handler runs for an unregistered path whatever bytes arrive -/
theorem unregistered_never_invokes (mux : List Bytes) (handler : Parsed → Nat × Bytes) (buf : Bytes)
    (h : (parse 200 buf).uri ∉ mux) : (serve mux handler buf).invoked = none := by
  unfold serve; simp [h]

theorem serve_unregistered (mux : List Bytes) (handler : Parsed → Nat × Bytes) (m u body : Bytes) (hs : List (Bytes × Bytes))
    (hm : supported m) (hu : okTok u) (hh : ∀ h ∈ hs, okKey h.1 ∧ okVal h.2) (hreg : u ∉ mux) :
    (serve mux handler (buildRequest m u hs body)).invoked = none :=
  unregistered_never_invokes mux handler _ (by rwa [http_request_roundtrip m u body hs hm hu hh])

/-- and a handler only ever runs for the path it was registered for -/
theorem invoked_only_for_registered (mux : List Bytes) (handler : Parsed → Nat × Bytes) (buf : Bytes) (r : Parsed)
    (h : (serve mux handler buf).invoked = some r) : r.uri ∈ mux ∧ r = parse 200 buf := by
  by_cases hc : (parse 200 buf).uri ∈ mux
  · simp [serve, hc] at h
    subst h; exact ⟨hc, rfl⟩
  · simp [serve, hc] at h

/-- **response round trip**: the client reads a response with the request parser: the status digits land in `uri`,
the response body in the body -/
theorem http_response_roundtrip (st : Nat) (ver code reason body : Bytes) (hs : List (Bytes × Bytes))
    (hv : okTok ver) (hc : okTok code) (hr : okVal reason) (hh : ∀ h ∈ hs, okKey h.1 ∧ okVal h.2) :
    (parse st (buildResponse ver code reason hs body)).uri = code ∧
    (parse st (buildResponse ver code reason hs body)).body = body ∧
    (parse st (buildResponse ver code reason hs body)).headers = hs := by
  have e : buildResponse ver code reason hs body = message ver code reason hs body := by
    simp [buildResponse, message]
  rw [e, parse_message st ver code reason body hs hv hc hr hh]
  simp

/-- the two headers every response carries are in the grammar, in either order -/
example : ∀ h ∈ [(str "Server", str "github.com/brewlin/net-protocol/1.00"), (str "Connection", str "close")],
    okKey h.1 ∧ okVal h.2 := by decide

/-- **whole exchange**, registered path, handler that sets no status: the client reads `200` and the body the handler
produced from exactly the request sent -/
theorem http_exchange (mux : List Bytes) (handler : Parsed → Nat × Bytes) (m u body : Bytes) (hs rhs : List (Bytes × Bytes))
    (hm : supported m) (hu : okTok u) (hh : ∀ h ∈ hs, okKey h.1 ∧ okVal h.2) (hreg : u ∈ mux)
    (hrh : ∀ h ∈ rhs, okKey h.1 ∧ okVal h.2)
    (hc : (handler { method := m, uri := u, version := str "HTTP/1.1", headers := hs, body := body, status := 200 }).1 = 0)
    (hne : (handler { method := m, uri := u, version := str "HTTP/1.1", headers := hs, body := body, status := 200 }).2 ≠ []) :
    let s := serve mux handler (buildRequest m u hs body)
    let back := parse 200 (buildResponse (str "HTTP/1.1") (str "200") (str "OK") rhs s.body)
    s.status = 200 ∧ back.uri = str "200" ∧
    back.body = (handler { method := m, uri := u, version := str "HTTP/1.1", headers := hs, body := body, status := 200 }).2 := by
  intro s back
  have hs' : s = _ := serve_registered mux handler m u body hs hm hu hh hreg
  have hb := http_response_roundtrip 200 (str "HTTP/1.1") (str "200") (str "OK") s.body rhs (by decide) (by decide) (by decide) hrh
  refine ⟨?_, hb.1, hb.2.1.trans ?_⟩
  · simp [hs', hc]
  · simp [hs', hc, hne]

def exampleHeaders : List (Bytes × Bytes) :=
  [(str "Host", str "10.0.0.1:8080"), (str "User-Agent", str "net-protocol/5.0"), (str "Accept", str "*/*"),
   (str "X-A", str "b: c")]

instance : Decidable (supported m) := by unfold supported; infer_instance
/-- a request with `: ` in a header value and a blank line in the body, served and read back -/
example :
    supported (str "POST") ∧ okTok (str "/a?b=c") ∧ (∀ h ∈ exampleHeaders, okKey h.1 ∧ okVal h.2) ∧
    (serve [str "/a?b=c"] (fun r => (0, r.body ++ r.method))
      (buildRequest (str "POST") (str "/a?b=c") exampleHeaders (str "x: y\r\n\r\nz"))).body
      = str "x: y\r\n\r\nzPOST" := by decide

/-- the statements of /repo the HTTP model mirrors, regenerated on every run (an edit there breaks the pin): the header
loop with its blank-line stop, the status assignments, `set_status_code`, `Response.Error`, the dispatcher, the server's
read, `match_until` -/
theorem http_statements_pinned :
    Gen.Shapes.http_header_loop = ["v4, v5, v6 := \"\", \"\", \"\"", "v4, v6 = match_until(v3, \": \")", "v3 = v6", "v5, v6 = match_until(v3, \"\\r\\n\")", "v3 = v6"] ∧
    Gen.Shapes.http_blank_line = ["if strings.HasPrefix(v3, \"\\r\\n\")"] ∧
    Gen.Shapes.http_body = ["v0.body = v3"] ∧
    Gen.Shapes.http_parse_status = ["v1.status_code = 400", "v1.set_status_code(501)", "v1.status_code = 400", "v1.status_code = 400", "v1.set_status_code(200)", "v1.status_code = 400", "v1.set_status_code(400)", "log.Println(\"@application http: header parse status_code:\", v1.status_code)"] ∧
    Gen.Shapes.http_set_status = ["if v0.status_code == 0", "v0.status_code = v1"] ∧
    Gen.Shapes.http_error = ["v0.con.status_code = v1"] ∧
    Gen.Shapes.http_dispatch = ["_, v2 := defaultMux.m[v1.request.uri]", "defaultMux.m[v1.request.uri].h(v1.request, v1.response)"] ∧
    Gen.Shapes.http_server_read = ["<-v0.notifyC"] ∧
    Gen.Shapes.http_match_until = ["v2 := strings.Index(v0, v1)", "if v2 == -1"] :=
  ⟨rfl, rfl, rfl, rfl, rfl, rfl, rfl, rfl, rfl⟩

/-- likewise for WebSocket: the writer's length cases, the reader's header and length decoding, the masking loop, the
header-bit constants -/
theorem ws_statements_pinned :
    Gen.Shapes.ws_send_len = ["v2 := len(v1)", "v0.writeBuf = make([]byte, 10+v2)", "case v2 >= 1<<16", "binary.BigEndian.PutUint64(v0.writeBuf[v3:], uint64(v2))", "case v2 > 125", "binary.BigEndian.PutUint16(v0.writeBuf[v3:], uint16(v2))", "v0.writeBuf[1] = byte(v2)"] ∧
    Gen.Shapes.ws_read_len = ["v8 := int64(v7)", "v8 = int64(binary.BigEndian.Uint16(v3[:2]))", "v8 = int64(binary.BigEndian.Uint64(v3[:8]))", "log.Printf(\"Read data length :%d,payload length %d\", v7, v8)", "v9 := make([]byte, v8)"] ∧
    Gen.Shapes.ws_read_hdr = ["_, v2 := v0.conn.Readn(v3[:2])", "v4 := v3[0]&finalBit != 0", "log.Printf(\"read data 1 bit :%b\\n\", v3[0])", "v5 := int(v3[0] & 0xf)", "v6 := v3[1]&maskBit != 0", "v7 := int64(v3[1] & 0x7F)", "_, v2 := v0.conn.Readn(v3[:2])", "v8 = int64(binary.BigEndian.Uint16(v3[:2]))", "_, v2 := v0.conn.Readn(v3[:8])", "v8 = int64(binary.BigEndian.Uint64(v3[:8]))"] ∧
    Gen.Shapes.ws_read_case = ["case 126", "case 127"] ∧
    Gen.Shapes.ws_mask = ["v2 := 0", "v1[v3] ^= v0[v2&3]", "v2++"] ∧
    Gen.Consts.ws_finalBit = Model.Ws.finalBit ∧ Gen.Consts.ws_maskBit = Model.Ws.maskBit ∧
    Gen.Consts.ws_TextMessage = Model.Ws.textMessage ∧ Gen.Consts.ws_CloseMessage = Model.Ws.closeMessage :=
  ⟨rfl, rfl, rfl, rfl, rfl, rfl, rfl, rfl, rfl⟩

section ws
open Model.Ws

/-- `SendData` writes exactly RFC 6455's unmasked final text frame with the minimal length encoding -/
theorem sendData_is_rfc_frame (data : List Nat) : sendData data = Spec.Ws.encodeFrame 1 none data := by
  rw [encodeFrame_eq, sendData_eq]; rfl

/-- `ReadData` returns the payload of every final text frame an RFC 6455 peer can send, masked or not, and leaves the
rest of the stream untouched -/
theorem reads_rfc_frames (key : Option (List Nat)) (hk : ∀ k, key = some k → k.length = 4) (data rest : List Nat)
    (h : data.length < 2 ^ 63) : readData (Spec.Ws.encodeFrame 1 key data ++ rest) = .data data rest := by
  rw [encodeFrame_eq, List.append_assoc, readData_frame key.isSome _ _ h]
  exact readPayload_frame key data rest hk

/-- what `SendData` frames `ReadData` reads back exactly, whatever follows in the stream -/
theorem ws_roundtrip (data rest : List Nat) (h : data.length < 2 ^ 63) :
    readData (sendData data ++ rest) = .data data rest := by
  rw [sendData_is_rfc_frame]; exact reads_rfc_frames none (fun _ e => nomatch e) data rest h

/-- messages sent one after the other arrive as the same messages in the same order -/
theorem ws_sequence_roundtrip (msgs : List (List Nat)) (h : ∀ m ∈ msgs, m.length < 2 ^ 63) :
    readAll (msgs.length + 1) (msgs.map sendData).flatten = msgs := by
  induction msgs with
  | nil => simp [readAll, readData, readn]
  | cons m ms ih =>
    obtain ⟨hm, hms⟩ := List.forall_mem_cons.mp h
    simp [readAll, ws_roundtrip m _ hm, ih hms]

/-- an independent RFC 6455 decoder reads what `SendData` wrote as one well-formed unmasked frame carrying exactly
the message -/
theorem rfc_decoder_reads_sent (data rest : List Nat) (h : data.length < 2 ^ 64) :
    Spec.Ws.decodeFrame (sendData data ++ rest)
      = some ({ fin := true, rsv := 0, opcode := 1, masked := false, minimalLength := true, payload := data }, rest) := by
  rw [sendData_eq]
  unfold lenField
  split
  · simp [Spec.Ws.decodeFrame, Nat.mod_eq_of_lt (show data.length < 128 by omega), show data.length ≠ 126 by omega,
      show data.length ≠ 127 by omega, show ¬ 128 ≤ data.length by omega]
  split
  · simp [Spec.Ws.decodeFrame, beBytes_length, spec_unbe_eq, beVal_beBytes 2 _ (show data.length < 256 ^ 2 by omega),
      show 125 < data.length by omega]
  · simp [Spec.Ws.decodeFrame, beBytes_length, spec_unbe_eq, beVal_beBytes 8 _ (show data.length < 256 ^ 8 by omega),
      show 65535 < data.length by omega]

/-- the bytes `Upgrade` writes are a message in the grammar the client's parser reads -/
theorem upgrade_bytes (key : List Nat) :
    upgradeHead ++ computeAcceptKey key ++ crlf ++ crlf
      = message (str "HTTP/1.1") (str "101") (str "Switching Protocols")
          [(str "Upgrade", str "websocket"), (str "Connection", str "Upgrade"),
           (str "Sec-WebSocket-Accept", Spec.Ws.acceptKey key)] [] := by
  -- bracketed to the left, both sides end in the key and two line ends
  simp only [message, headerLines, computeAcceptKey, List.append_nil, ← List.append_assoc, List.append_left_inj]
  -- what stands before them is compared as a string, where it is cheap: `String.toList` of a long literal is
  -- quadratic in the kernel
  simp only [show sp = str " " from rfl, show crlf = str "\r\n" from rfl, show colonSp = str ": " from rfl, ← str_append]
  exact congrArg str (by decide)

/-- **accept key**: `Upgrade` answers a request that carries the upgrade headers, and the key the client reads out of
the answer is RFC 6455's function of the key it sent -/
theorem upgrade_accept_key (r : Parsed) (key : List Nat)
    (hm : r.method = str "GET") (hv : hdr r "Sec-WebSocket-Version" = str "13")
    (hc : tokenListContainsValue (hdr r "Connection") (str "upgrade") = true)
    (hu : hdr r "Upgrade" = str "websocket") (hk : hdr r "Sec-WebSocket-Key" = key) (hne : key ≠ []) :
    ∃ resp, upgrade r = some resp ∧
      lookup (parse 200 resp).headers (str "Sec-WebSocket-Accept") = some (Spec.Ws.acceptKey key) := by
  refine ⟨upgradeHead ++ computeAcceptKey key ++ crlf ++ crlf, ?_, ?_⟩
  · unfold upgrade; simp [hm, hv, hc, hu, hk, hne]
  · rw [upgrade_bytes, parse_message 200 _ _ _ [] _ (by decide) (by decide) (by decide)]
    · simp [lookup]
    · simp only [List.forall_mem_cons, List.not_mem_nil, false_imp_iff, implies_true, and_true]
      exact ⟨by decide, by decide, by decide, acceptKey_okVal key⟩

/-- … and writes nothing when the key is missing, the method is not GET, or the version is not 13 -/
theorem upgrade_refuses (r : Parsed)
    (h : r.method ≠ str "GET" ∨ hdr r "Sec-WebSocket-Version" ≠ str "13" ∨ hdr r "Sec-WebSocket-Key" = []) :
    upgrade r = none := by
  -- every earlier check refuses as well, so the tests before the failing one do not matter
  rcases h with h | h | h <;> simp [upgrade, h]

/-- the request the bundled WebSocket client sends -/
def upgradeRequest (key : List Nat) : Parsed :=
  parse 200 (buildRequest (str "GET") (str "/ws")
    [(str "Host", str "10.0.0.1:8080"), (str "Upgrade", str "websocket"), (str "Connection", str "Upgrade"),
     (str "Sec-WebSocket-Key", key), (str "Sec-WebSocket-Protcol", str "chat, superchat"),
     (str "Sec-WebSocket-Version", str "13")] [])
-- it meets the hypotheses of `upgrade_accept_key`
set_option maxRecDepth 4096 in
example : let r := upgradeRequest (str "dGhlIHNhbXBsZSBub25jZQ==")
    r.method = str "GET" ∧ hdr r "Sec-WebSocket-Version" = str "13" ∧
    tokenListContainsValue (hdr r "Connection") (str "upgrade") = true ∧ hdr r "Upgrade" = str "websocket" ∧
    hdr r "Sec-WebSocket-Key" = str "dGhlIHNhbXBsZSBub25jZQ==" := by
  -- the server reads back what the client built (`http_request_roundtrip`); the rest is lookups in six headers
  intro r
  have e : r = _ := http_request_roundtrip (str "GET") (str "/ws") [] _ (Or.inl rfl) (by decide) (by decide)
  rw [e]
  decide

end ws
end Props.C20
