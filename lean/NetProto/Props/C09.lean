import NetProto.Model.Net
/-!
# C09 — inbound packets reach exactly the socket they are addressed to, or nobody

`findEndpoint` and the level `lvl` of a match are both a search down the same four probes, most specific first;
`findSome_desc` reads such a search as "the largest index that hits".
-/
namespace C09
open Model.Net

theorem accept_iff (n : Nic) (dst : Addr) :
    n.accepts dst = true ↔
      (∃ p ∈ n.addrs, p.2 = dst) ∨ n.promiscuous = true ∨ (∃ s ∈ n.subnets, maskMatch dst s.2.1 s.2.2 = true) := by
  simp [Nic.accepts, List.any_eq_true, or_assoc]

/-- a packet for an address the interface does not own changes nothing -/
theorem not_for_us_dropped (w : World) (nic np : Nat) (src dst : Addr) (sp dp ul : Nat) (pl : List Nat) (n : Nic)
    (hn : w.nic nic = some n) (ha : n.accepts dst = false) :
    deliverUdp w nic np src dst sp dp ul pl = (w, none) := by
  simp [deliverUdp, hn, ha]

/-- how a registered id matches the packet's 4-tuple `p`: 3 = all four, 2 = wildcard local address, 1 = local address
    and port only, 0 = port only -/
def lvl (p r : Tid) : Option Nat :=
  if r = p then some 3
  else if r = { p with laddr := [] } then some 2
  else if r = { p with raddr := [], rport := 0 } then some 1
  else if r = { p with laddr := [], raddr := [], rport := 0 } then some 0
  else none

def regsOf (w : World) (np tr : Nat) : List Reg := w.demux.filter fun r => r.netProto == np && r.trans == tr

theorem lookup_some (w : World) (np tr : Nat) (id : Tid) (e : Nat) (h : w.lookupReg np tr id = some e) :
    ∃ r ∈ regsOf w np tr, r.id = id ∧ r.ep = e := by
  unfold World.lookupReg at h
  simp only [Option.map_eq_some_iff] at h
  obtain ⟨r, hr, rfl⟩ := h
  have hm := List.mem_of_find?_eq_some hr
  have hp := List.find?_some hr
  simp only [Bool.and_eq_true, beq_iff_eq] at hp
  exact ⟨r, by simp [regsOf, hm, hp.1.1, hp.1.2], hp.2, rfl⟩

theorem lookup_none (w : World) (np tr : Nat) (id : Tid) :
    w.lookupReg np tr id = none ↔ ∀ r ∈ regsOf w np tr, r.id ≠ id := by
  simp [World.lookupReg, regsOf, and_imp]

/-- the id `findEndpointLocked` looks up at level `k` -/
def probe (p : Tid) : Nat → Tid
  | 3 => p
  | 2 => { p with laddr := [] }
  | 1 => { p with raddr := [], rport := 0 }
  | _ => { p with laddr := [], raddr := [], rport := 0 }

theorem findEndpoint_eq (w : World) (np tr : Nat) (p : Tid) :
    w.findEndpoint np tr p = [3, 2, 1, 0].findSome? fun k => w.lookupReg np tr (probe p k) := by
  simp only [World.findEndpoint, List.findSome?_cons, List.findSome?_nil, probe]
  cases w.lookupReg np tr p <;> cases w.lookupReg np tr { p with laddr := [] } <;>
    cases w.lookupReg np tr { p with raddr := [], rport := 0 } <;>
    cases w.lookupReg np tr { p with laddr := [], raddr := [], rport := 0 } <;> rfl

theorem find_cons_ite {α} (q : α → Bool) (a : α) (l : List α) :
    (a :: l).find? q = if q a then some a else l.find? q := by
  cases h : q a <;> simp [h]

theorem lvl_eq (p r : Tid) : lvl p r = [3, 2, 1, 0].find? fun k => r = probe p k := by
  simp only [lvl, find_cons_ite, List.find?_nil, probe, decide_eq_true_eq]

/-- descending: what stands before the first hit is exactly what is larger than it -/
theorem findSome_desc {α} (l : List Nat) (hl : l.Pairwise (· > ·)) (g : Nat → Option α) (e : α) :
    l.findSome? g = some e ↔ ∃ k ∈ l, g k = some e ∧ ∀ j ∈ l, k < j → g j = none := by
  rw [List.findSome?_eq_some_iff]
  constructor
  · rintro ⟨l₁, k, l₂, rfl, hk, hnone⟩
    have hlt := (List.pairwise_cons.mp (List.pairwise_append.mp hl).2.1).1
    refine ⟨k, by simp, hk, fun j hj hkj => hnone j ?_⟩
    rcases List.mem_append.mp hj with hj | hj
    · exact hj
    · rcases List.mem_cons.mp hj with rfl | hj
      · omega
      · have := hlt j hj; omega
  · rintro ⟨k, hk, hg, hmax⟩
    obtain ⟨l₁, l₂, rfl⟩ := List.append_of_mem hk
    exact ⟨l₁, k, l₂, rfl, hg, fun j hj => hmax j (by simp [hj]) ((List.pairwise_append.mp hl).2.2 j hj k (by simp))⟩

theorem lvl_eq_some (p r : Tid) (k : Nat) :
    lvl p r = some k ↔ k ∈ [3, 2, 1, 0] ∧ r = probe p k ∧ ∀ j ∈ [3, 2, 1, 0], k < j → r ≠ probe p j := by
  rw [lvl_eq, ← List.findSome?_guard, findSome_desc _ (by decide)]
  simp only [Option.guard_eq_some_iff, Option.guard_eq_none_iff, decide_eq_true_eq, decide_eq_false_iff_not]
  exact ⟨fun ⟨_, hk, ⟨rfl, hr⟩, hmax⟩ => ⟨hk, hr, hmax⟩, fun ⟨hk, hr, hmax⟩ => ⟨k, hk, ⟨rfl, hr⟩, hmax⟩⟩

/-- **Most specific match**: the endpoint chosen is registered under an id that matches the packet, and no registered
    id matches more specifically. -/
theorem find_most_specific (w : World) (np tr : Nat) (p : Tid) (e : Nat)
    (h : w.findEndpoint np tr p = some e) :
    ∃ r ∈ regsOf w np tr, r.ep = e ∧ ∃ k, lvl p r.id = some k ∧
      ∀ r' ∈ regsOf w np tr, ∀ k', lvl p r'.id = some k' → k' ≤ k := by
  rw [findEndpoint_eq, findSome_desc _ (by decide)] at h
  obtain ⟨k, hk, hfound, hnone⟩ := h
  obtain ⟨r, hr, hid, hep⟩ := lookup_some w np tr _ e hfound
  refine ⟨r, hr, hep, k, (lvl_eq_some ..).mpr ⟨hk, hid, fun j a b => (lookup_none ..).mp (hnone j a b) r hr⟩, ?_⟩
  intro r' hr' k' hk'
  obtain ⟨b, hid', _⟩ := (lvl_eq_some ..).mp hk'
  -- an id matching above level `k` would have been found first
  by_cases hle : k' ≤ k
  · exact hle
  · exact absurd hid' ((lookup_none ..).mp (hnone k' b (by omega)) r' hr')

/-- **nobody** iff no registered id matches at any level -/
theorem find_none_iff (w : World) (np tr : Nat) (p : Tid) :
    w.findEndpoint np tr p = none ↔ ∀ r ∈ regsOf w np tr, lvl p r.id = none := by
  simp only [findEndpoint_eq, lvl_eq, List.findSome?_eq_none_iff, List.find?_eq_none, lookup_none, decide_eq_true_eq]
  exact ⟨fun h r hr k hk => h k hk r hr, fun h k hk r hr => h r hr k hk⟩

def UniqueRegs (w : World) : Prop :=
  w.demux.Pairwise fun a b => ¬ (a.netProto = b.netProto ∧ a.trans = b.trans ∧ a.id = b.id)

theorem mem_dedup (l : List Nat) (a : Nat) : a ∈ dedup l ↔ a ∈ l := by
  induction l with
  | nil => simp [dedup]
  | cons x t ih =>
    unfold dedup
    split
    · next h => simp only [ih, List.mem_cons, iff_or_self]; rintro rfl; simpa using h
    · simp [ih]

theorem dedup_nodup (l : List Nat) : (dedup l).Nodup := by
  induction l with
  | nil => simp [dedup]
  | cons x t ih =>
    unfold dedup
    split
    · exact ih
    · next h => exact List.nodup_cons.mpr ⟨by simpa [mem_dedup] using h, ih⟩

theorem register_unique (w : World) (nps : List Nat) (tr : Nat) (id : Tid) (ep : Nat) (w' : World)
    (hu : UniqueRegs w) (h : w.register nps tr id ep = some w') : UniqueRegs w' := by
  unfold World.register at h
  split at h
  · simp at h
  · rename_i hfree
    cases h
    unfold UniqueRegs at *
    refine List.pairwise_append.mpr ⟨hu, List.pairwise_map.mpr ?_, fun a ha b hb hcon => ?_⟩
    · exact (dedup_nodup nps).imp fun hab hcon => hab hcon.1
    · simp only [List.mem_map] at hb
      obtain ⟨n, hn, rfl⟩ := hb
      -- `a` is registered under the id for network `n`: the lookup that guards the registration finds it
      simp only [List.any_eq_true, not_exists, not_and, Bool.not_eq_true, Option.isSome_eq_false_iff,
        Option.isNone_iff_eq_none, lookup_none] at hfree
      exact hfree n ((mem_dedup nps n).mp hn) a (by simp [regsOf, ha, hcon.1, hcon.2.1]) hcon.2.2

theorem unregister_unique (w : World) (nps : List Nat) (tr : Nat) (id : Tid) (hu : UniqueRegs w) :
    UniqueRegs (w.unregister nps tr id) := by
  unfold UniqueRegs World.unregister at *
  exact List.Pairwise.filter _ hu

theorem deliverUdp_cases (w : World) (nic np : Nat) (src dst : Addr) (sp dp ul : Nat) (pl : List Nat) :
    deliverUdp w nic np src dst sp dp ul pl = (w, none) ∨
    ∃ i e, w.findEndpoint np udpProto { lport := dp, laddr := dst, rport := sp, raddr := src } = some i ∧
      w.udp[i]? = some e ∧
      deliverUdp w nic np src dst sp dp ul pl = (w.setUdp i (udpHandle e nic src sp ul pl), some i) := by
  unfold deliverUdp
  split
  · exact Or.inl rfl
  · split
    · exact Or.inl rfl
    · split
      · exact Or.inl rfl
      · next i hf =>
        split
        · exact Or.inl rfl
        · next e he => exact Or.inr ⟨i, e, hf, he, rfl⟩

/-- **Exactly one or nobody**: an inbound datagram leaves registrations, port table, interfaces and every socket but
    the one it is handed to as they were. -/
theorem deliver_frame (w : World) (nic np : Nat) (src dst : Addr) (sp dp ul : Nat) (pl : List Nat) :
    let r := deliverUdp w nic np src dst sp dp ul pl
    r.1.demux = w.demux ∧ r.1.ports = w.ports ∧ r.1.nics = w.nics ∧
    (∀ j, r.2 ≠ some j → r.1.udp[j]? = w.udp[j]?) ∧
    (r.2 = none → r.1.udp = w.udp) := by
  rcases deliverUdp_cases w nic np src dst sp dp ul pl with h | ⟨i, e, _, _, h⟩ <;> simp only [h]
  · simp
  · refine ⟨rfl, rfl, rfl, fun j hj => ?_, by simp⟩
    exact List.getElem?_set_ne fun h => hj (by rw [h])

/-- the socket that receives is the one `findEndpoint` names -/
theorem deliver_to_found (w : World) (nic np : Nat) (src dst : Addr) (sp dp ul : Nat) (pl : List Nat) (i : Nat)
    (h : (deliverUdp w nic np src dst sp dp ul pl).2 = some i) :
    w.findEndpoint np udpProto { lport := dp, laddr := dst, rport := sp, raddr := src } = some i := by
  rcases deliverUdp_cases w nic np src dst sp dp ul pl with h' | ⟨j, e, hf, _, h'⟩ <;> rw [h'] at h
  · cases h
  · cases h; exact hf

/-- a connected socket wins over a bound one on the same port -/
example :
    let w : World := { demux := [⟨v4, udpProto, { lport := 7000 }, 0⟩,
                                 ⟨v4, udpProto, { lport := 7000, laddr := [10, 0, 0, 1], rport := 9, raddr := [10, 0, 0, 9] }, 1⟩] }
    w.findEndpoint v4 udpProto { lport := 7000, laddr := [10, 0, 0, 1], rport := 9, raddr := [10, 0, 0, 9] } = some 1 ∧
    w.findEndpoint v4 udpProto { lport := 7000, laddr := [10, 0, 0, 1], rport := 8, raddr := [10, 0, 0, 9] } = some 0 := by
  decide

end C09
