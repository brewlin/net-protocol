import NetProto.Generated.Seqnum
import NetProto.Model.Seqnum
/-!
# C14 — sequence-space arithmetic (theorems about the *generated* definitions)

`Gen.Seqnum.*` is regenerated from `/repo/pkg/seqnum/seqnum.go` on every run, so each theorem is re-checked against
what the code says now.
-/
namespace C14
open Gen.Seqnum (LessThan LessThanEq InRange InWindow Overlap Size UpdateForward)
-- not opened with the others: a bare `Add` would be read as the class
abbrev SAdd := Gen.Seqnum.Add

/-- forward distance from `v` to `w` in the 32-bit circle -/
def fwd (v w : BitVec 32) : Nat := (w - v).toNat

theorem fwd_lt (v w : BitVec 32) : fwd v w < 2^32 := (w - v).isLt

/-- distances compose around the circle; with `fwd_self` this is all the comparisons below need of `fwd` -/
theorem fwd_trans (a b c : BitVec 32) : fwd a c = (fwd a b + fwd b c) % 2^32 := by
  unfold fwd
  rw [← BitVec.toNat_add]
  congr 1
  rw [BitVec.sub_eq_iff_eq_add, BitVec.add_comm (b - a), BitVec.add_assoc, BitVec.sub_add_cancel, BitVec.sub_add_cancel]

theorem fwd_self (a : BitVec 32) : fwd a a = 0 := by simp [fwd]

theorem fwd_eq_zero {a b : BitVec 32} (h : fwd a b = 0) : a = b := by
  have : b - a = 0#32 := BitVec.eq_of_toNat_eq h
  rw [BitVec.sub_eq_iff_eq_add, BitVec.zero_add] at this
  exact this.symm

theorem fwd_swap (a b : BitVec 32) : fwd b a = (2^32 - fwd a b) % 2^32 := by
  have h := fwd_trans a b a
  have h1 := fwd_lt a b; have h2 := fwd_lt b a
  rw [fwd_self] at h
  omega

/-- What the code computes: `v` precedes `w` iff the forward distance is in `[1, 2^31]`. -/
theorem lessThan_iff (v w : BitVec 32) :
    LessThan v w = true ↔ (1 ≤ fwd v w ∧ fwd v w ≤ 2^31) := by
  unfold LessThan fwd
  simp only [BitVec.slt, BitVec.toInt_eq_toNat_cond, decide_eq_true_eq]
  have hv := v.isLt
  have hw := w.isLt
  simp only [BitVec.toNat_sub, BitVec.toNat_ofNat, Nat.reducePow, Nat.reduceMod] at *
  omega

/-- The property as worded (`1 ≤ fwd ≤ 2^31-1`) holds except at distance exactly 2^31. -/
theorem lessThan_spec_partial (v w : BitVec 32) (h : fwd v w ≠ 2^31) :
    LessThan v w = true ↔ (1 ≤ fwd v w ∧ fwd v w ≤ 2^31 - 1) := by
  rw [lessThan_iff]; omega

/-- Finding F14a: at distance exactly 2^31 each value precedes the other. -/
theorem lessThan_half_witness (v w : BitVec 32) (h : fwd v w = 2^31) :
    LessThan v w = true ∧ LessThan w v = true := by
  rw [lessThan_iff, lessThan_iff, fwd_swap v w]
  omega

theorem lessThan_asymm (v w : BitVec 32) (h : fwd v w ≠ 2^31) :
    ¬ (LessThan v w = true ∧ LessThan w v = true) := by
  rw [lessThan_iff, lessThan_iff, fwd_swap v w]
  omega

theorem lessThan_irrefl (v : BitVec 32) : LessThan v v = false := by
  have := lessThan_iff v v
  rw [fwd_self] at this
  simpa using this

theorem lessThanEq_iff (v w : BitVec 32) :
    LessThanEq v w = true ↔ fwd v w ≤ 2^31 := by
  unfold LessThanEq
  by_cases h : v = w
  · subst h; simp [fwd_self]
  · have hne : (v == w) = false := by simpa using h
    have : fwd v w ≠ 0 := fun e => h (fwd_eq_zero e)
    simp only [hne, Bool.false_eq_true, ↓reduceIte, lessThan_iff]
    omega

theorem inRange_iff (v a b : BitVec 32) :
    InRange v a b = true ↔ fwd a v < fwd a b := by
  unfold InRange fwd
  simp [BitVec.ult]

theorem add_fwd (v s : BitVec 32) : fwd v (SAdd v s) = s.toNat := by
  unfold fwd SAdd Gen.Seqnum.Add
  rw [BitVec.add_comm, BitVec.add_sub_cancel]

theorem fwd_add (a x y : BitVec 32) : fwd a (SAdd x y) = (fwd a x + y.toNat) % 2^32 := by
  rw [fwd_trans a x, add_fwd]

theorem inWindow_iff (v first size : BitVec 32) :
    InWindow v first size = true ↔ fwd first v < size.toNat := by
  unfold InWindow
  rw [inRange_iff, add_fwd]

theorem size_spec (v w : BitVec 32) : (Size v w).toNat = fwd v w := rfl

theorem add_size (v w : BitVec 32) : SAdd v (Size v w) = w := by
  unfold SAdd Gen.Seqnum.Add Size
  rw [BitVec.add_comm, BitVec.sub_add_cancel]

theorem size_add (v s : BitVec 32) : Size v (SAdd v s) = s := by
  apply BitVec.eq_of_toNat_eq
  rw [size_spec, add_fwd]

theorem updateForward_eq (v s : BitVec 32) : UpdateForward v s = SAdd v s := rfl

def Share (a b x y : BitVec 32) : Prop :=
  ∃ k : BitVec 32, fwd a k < b.toNat ∧ fwd x k < y.toNat

/-- On a circle two non-empty arcs meet iff the start of one lies in the other. -/
theorem share_iff (a b x y : BitVec 32) :
    Share a b x y ↔ (fwd a x < b.toNat ∧ 0 < y.toNat) ∨ (fwd x a < y.toNat ∧ 0 < b.toNat) := by
  constructor
  · rintro ⟨k, h1, h2⟩
    have t := fwd_trans a x k
    have s := fwd_swap a x
    have := fwd_lt a x; have := fwd_lt x k
    omega
  · rintro (⟨h, hy⟩ | ⟨h, hb⟩)
    · exact ⟨x, h, by rwa [fwd_self]⟩
    · exact ⟨a, by rwa [fwd_self], h⟩

/-- `Overlap` agrees with "share a sequence number" when both windows are non-empty and together span at most 2^31
    (start to far end, either way round). -/
theorem overlap_spec_partial (a b x y : BitVec 32) (hb : 0 < b.toNat) (hy : 0 < y.toNat)
    (hspan : (fwd a x + y.toNat ≤ 2^31 ∧ b.toNat ≤ 2^31) ∨ (fwd x a + b.toNat ≤ 2^31 ∧ y.toNat ≤ 2^31)) :
    Overlap a b x y = true ↔ Share a b x y := by
  rw [share_iff]
  unfold Overlap
  rw [Bool.and_eq_true, lessThan_iff, lessThan_iff]
  rw [fwd_add, fwd_add]
  have s := fwd_swap a x
  have := fwd_lt a x; have := b.isLt; have := y.isLt
  omega

/-- Finding F14b: an *empty* window strictly inside another is reported as overlapping. -/
theorem overlap_empty_witness : Overlap 10#32 0#32 5#32 10#32 = true ∧ ¬ Share 10#32 0#32 5#32 10#32 := by
  constructor
  · decide
  · rw [share_iff]; decide

/-- Finding F14b: beyond the 2^31 span disjoint windows can be reported overlapping and overlapping ones disjoint. -/
theorem overlap_span_witness :
    Overlap 0#32 0x90000000#32 0x10#32 1#32 = false ∧ Share 0#32 0x90000000#32 0x10#32 1#32 := by
  constructor
  · decide
  · rw [share_iff]; decide

/-- the hand-written model the driver executes is the regenerated translation -/
theorem model_eq_generated :
    Model.Seqnum.LessThan = Gen.Seqnum.LessThan ∧ Model.Seqnum.LessThanEq = Gen.Seqnum.LessThanEq ∧
    Model.Seqnum.InRange = Gen.Seqnum.InRange ∧ Model.Seqnum.InWindow = Gen.Seqnum.InWindow ∧
    Model.Seqnum.Overlap = Gen.Seqnum.Overlap ∧ Model.Seqnum.Add = Gen.Seqnum.Add ∧
    Model.Seqnum.SizeOf = Gen.Seqnum.Size ∧ Model.Seqnum.UpdateForward = Gen.Seqnum.UpdateForward :=
  ⟨rfl, rfl, rfl, rfl, rfl, rfl, rfl, rfl⟩

/-- the sequence number of stream offset `off` for a connection starting at `base`: modular comparison is comparison
of unbounded offsets (the `_offsets` theorems; nothing else rests on them) -/
def seqOf (base : BitVec 32) (off : Nat) : BitVec 32 := base + BitVec.ofNat 32 off

theorem fwd_seqOf (base : BitVec 32) (i j : Nat) :
    fwd (seqOf base i) (seqOf base j) = (j + (2^32 - i % 2^32)) % 2^32 := by
  have e : seqOf base j - seqOf base i = BitVec.ofNat 32 j - BitVec.ofNat 32 i := by
    unfold seqOf
    rw [BitVec.sub_eq_iff_eq_add, BitVec.add_comm base (BitVec.ofNat 32 i), ← BitVec.add_assoc, BitVec.sub_add_cancel,
      BitVec.add_comm]
  unfold fwd
  rw [e]
  simp only [BitVec.toNat_sub, BitVec.toNat_ofNat, Nat.reducePow]
  omega

theorem lessThan_offsets (base : BitVec 32) (i j : Nat) (h : i < j + 2^31 ∧ j < i + 2^31) :
    LessThan (seqOf base i) (seqOf base j) = true ↔ i < j := by
  rw [lessThan_iff, fwd_seqOf]
  omega

theorem lessThanEq_offsets (base : BitVec 32) (i j : Nat) (h : i < j + 2^31 ∧ j < i + 2^31) :
    LessThanEq (seqOf base i) (seqOf base j) = true ↔ i ≤ j := by
  rw [lessThanEq_iff, fwd_seqOf]
  omega

theorem inWindow_offsets (base : BitVec 32) (i f : Nat) (size : BitVec 32)
    (h : i < f + 2^31 ∧ f < i + 2^31) (hsz : size.toNat ≤ 2^31) :
    InWindow (seqOf base i) (seqOf base f) size = true ↔ (f ≤ i ∧ i < f + size.toNat) := by
  rw [inWindow_iff, fwd_seqOf]
  omega

theorem add_offsets (base : BitVec 32) (i : Nat) (s : BitVec 32) :
    SAdd (seqOf base i) s = seqOf base (i + s.toNat) := by
  unfold SAdd Gen.Seqnum.Add seqOf
  rw [BitVec.ofNat_add, BitVec.ofNat_toNat, BitVec.setWidth_eq, BitVec.add_assoc]

/-- the hypotheses are met by a stream that crosses 2^32 -/
example : LessThan (seqOf 0xfffffff0#32 10) (seqOf 0xfffffff0#32 20) = true := by decide
example : (4294967280 + 20) % 2^32 = 4 := by decide

end C14
