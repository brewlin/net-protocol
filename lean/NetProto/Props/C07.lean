import NetProto.Model.Inbound
import NetProto.Props.ByteLemmas
/-! # C07 — no inbound frame sequence can crash the stack or stop it serving

Model: `Model/Inbound.lean`, the receive path with every index expression as a bounds-checked read
(`nic.DeliverNetworkPacket`, `ipv4/ipv6.HandlePacket`, the ICMP size checks, `nic.DeliverTransportPacket`,
`udp.HandlePacket`, `tcp segment.parse`, the fd-based endpoint's frame intake), over vectorised views (`Model.Buffer.VV`,
C16).  Tie: the model's reaction to every injected packet is compared with the real stack's on mutations, truncations,
multi-view splits and noise; liveness probes follow every barrage.

Proved here: none of these paths can index out of range, for any bytes in any views.  Part of the same argument,
proved elsewhere: the reassembler never panics (C08, about the code with D1 repaired), the option parsers never read
outside their input (C15Opts), ARP packets are only read after `IsValid` (C12).  Not covered by a theorem: deadlock
freedom and memory exhaustion (the probes are the evidence), the TCP state machine's reaction to malformed segments on
established connections (C01-C05 cover well-formed ones). -/
namespace Props.C07
open Model.Inbound Model.Buffer

theorem rd_some (b : List Nat) (i : Nat) (h : i < b.length) : rd? b i = some b[i] := by
  unfold rd?; exact List.getElem?_eq_getElem h

theorem rd16_eq (b : List Nat) (i : Nat) (h : i + 1 < b.length) : rd16? b i = some (Model.Header.rd16 b i) := by
  unfold rd16?
  rw [rd_some b i (by omega), rd_some b (i + 1) h]
  simp [Model.Header.rd16, Model.Header.rd8, List.getD_eq_getElem?_getD, List.getElem?_eq_getElem h,
    List.getElem?_eq_getElem (show i < b.length by omega)]

theorem slice_some (b : List Nat) (i j : Nat) (h : i ≤ j ∧ j ≤ b.length) : ∃ x, slice? b i j = some x := by
  unfold slice?; rw [if_pos h]; exact ⟨_, rfl⟩

/-! The handlers are trees of conditionals over guarded reads, and the proofs below are the trees themselves
(`isSome_ite`, `isSome_rd_bind`, ...): at each read, the guards collected on the way down give the bound.  After an edit
of `Model/Inbound.lean`, `unfold f; split` shows the new tree node by node. -/

theorem isSome_ite {α : Type} {c : Prop} [Decidable c] {a b : Option α}
    (ha : c → a.isSome = true) (hb : ¬ c → b.isSome = true) : (if c then a else b).isSome = true := by
  by_cases h : c
  · rw [if_pos h]; exact ha h
  · rw [if_neg h]; exact hb h

theorem isSome_rd_bind {α : Type} (b : List Nat) (i : Nat) (f : Nat → Option α) (h : i < b.length)
    (hf : ∀ x, (f x).isSome = true) : (rd? b i >>= f).isSome = true := by
  rw [rd_some b i h]; exact hf _

theorem isSome_rd16_bind {α : Type} (b : List Nat) (i : Nat) (f : Nat → Option α) (h : i + 1 < b.length)
    (hf : ∀ x, (f x).isSome = true) : (rd16? b i >>= f).isSome = true := by
  rw [rd16_eq b i h]; exact hf _

theorem isSome_slice_bind {α : Type} (b : List Nat) (i j : Nat) (f : List Nat → Option α) (h : i ≤ j ∧ j ≤ b.length)
    (hf : ∀ x, (f x).isSome = true) : (slice? b i j >>= f).isSome = true := by
  obtain ⟨x, hx⟩ := slice_some b i j h
  rw [hx]; exact hf x

/-- `segment.parse` never indexes outside the first view (which `DeliverTransportPacket` checked to hold 20 bytes) -/
theorem tcpParse_no_panic (dst : List Nat) (vv : VV) (h : 20 ≤ (firstOf vv).length) : (tcpParse dst vv).isSome = true :=
  isSome_rd_bind _ 12 _ (by omega) fun _ =>
    isSome_ite (fun _ => rfl) fun _ => isSome_slice_bind _ 20 _ _ (by omega) fun _ => rfl

/-- `DeliverTransportPacket`, `udp.HandlePacket`, `tcp.HandlePacket` -/
theorem deliverTransport_no_panic (proto : Nat) (src dst : List Nat) (vv : VV) : (deliverTransport proto src dst vv).isSome = true :=
  isSome_ite
    (fun _ => isSome_ite (fun _ => rfl) fun _ =>
      isSome_rd16_bind _ 0 _ (by omega) fun _ => isSome_rd16_bind _ 2 _ (by omega) fun _ =>
      isSome_rd16_bind _ 4 _ (by omega) fun _ => isSome_ite (fun _ => rfl) (fun _ => rfl))
    fun _ => isSome_ite
      (fun _ => isSome_ite (fun _ => rfl) fun _ =>
        isSome_rd16_bind _ 0 _ (by omega) fun _ => isSome_rd16_bind _ 2 _ (by omega) fun _ =>
        tcpParse_no_panic dst vv (by omega))
      (fun _ => rfl)

theorem icmp4Handle_no_panic (vv : VV) : (icmp4Handle vv).isSome = true :=
  isSome_ite (fun _ => rfl) fun _ => isSome_rd_bind _ 0 _ (by omega) fun _ =>
    isSome_ite (fun _ => isSome_ite (fun _ => rfl) (fun _ => rfl)) fun _ =>
    isSome_ite (fun _ => isSome_ite (fun _ => rfl) (fun _ => rfl)) fun _ =>
    isSome_ite
      (fun _ => isSome_ite (fun _ => rfl) fun _ =>
        isSome_rd_bind _ 1 _ (by omega) fun _ => isSome_rd16_bind _ 6 _ (by omega) fun _ => rfl)
      (fun _ => rfl)

theorem icmp6Handle_no_panic (src dst : List Nat) (vv : VV) : (icmp6Handle src dst vv).isSome = true :=
  isSome_ite (fun _ => rfl) fun _ => isSome_rd_bind _ 0 _ (by omega) fun _ =>
    isSome_ite (fun _ => isSome_ite (fun _ => rfl) (fun _ => rfl)) fun _ =>
    isSome_ite (fun _ => isSome_ite (fun _ => rfl) fun _ => isSome_slice_bind _ 8 24 _ (by omega) fun _ => rfl) fun _ =>
    isSome_ite (fun _ => isSome_ite (fun _ => rfl) fun _ => isSome_slice_bind _ 8 24 _ (by omega) fun _ => rfl) fun _ =>
    isSome_ite (fun _ => isSome_ite (fun _ => rfl) (fun _ => rfl)) fun _ =>
    isSome_ite (fun _ => isSome_ite (fun _ => rfl) (fun _ => rfl)) (fun _ => rfl)

/-- **C07 (IPv4 receive path)**: whatever bytes arrive, in whatever views, no index expression on the path from
`DeliverNetworkPacket` through `ipv4.HandlePacket`, the ICMP size checks and the transport handlers' header parsing is
out of range -/
theorem ipv4Inbound_no_panic (ours : List (List Nat)) (vv : VV) : (ipv4Inbound ours vv).isSome = true :=
  isSome_ite (fun _ => rfl) fun _ =>
    isSome_slice_bind _ 12 16 _ (by omega) fun _ => isSome_slice_bind _ 16 20 _ (by omega) fun _ =>
    isSome_ite (fun _ => rfl) fun _ =>
    isSome_rd_bind _ 0 _ (by omega) fun _ => isSome_rd16_bind _ 2 _ (by omega) fun _ =>
    isSome_ite (fun _ => rfl) fun _ => isSome_rd16_bind _ 6 _ (by omega) fun _ =>
    isSome_ite (fun _ => rfl) fun _ => isSome_rd_bind _ 9 _ (by omega) fun _ =>
    isSome_ite (fun _ => icmp4Handle_no_panic _) (fun _ => deliverTransport_no_panic _ _ _ _)

/-- **C07 (IPv6 receive path)**: likewise for `ipv6.HandlePacket`, the ICMPv6 size checks and the transport handlers -/
theorem ipv6Inbound_no_panic (ours : List (List Nat)) (vv : VV) : (ipv6Inbound ours vv).isSome = true :=
  isSome_ite (fun _ => rfl) fun _ =>
    isSome_slice_bind _ 8 24 _ (by omega) fun _ => isSome_slice_bind _ 24 40 _ (by omega) fun _ =>
    isSome_ite (fun _ => rfl) fun _ => isSome_rd16_bind _ 4 _ (by omega) fun _ =>
    isSome_ite (fun _ => rfl) fun _ => isSome_rd_bind _ 6 _ (by omega) fun _ =>
    isSome_ite (fun _ => icmp6Handle_no_panic _ _ _) (fun _ => deliverTransport_no_panic _ _ _ _)

theorem ethIntake_eq (frame : List Nat) :
    ethIntake frame = some (true, if 14 < frame.length then some (Model.Header.rd16 frame 12, frame.drop 14) else none) := by
  unfold ethIntake
  by_cases h : frame.length ≤ 14
  · rw [if_pos h, if_neg (by omega)]; rfl
  · obtain ⟨a, ha⟩ := slice_some frame 6 12 (by omega)
    obtain ⟨b, hb⟩ := slice_some frame 0 6 (by omega)
    rw [if_neg h, if_pos (by omega), rd16_eq frame 12 (by omega), ha, hb]
    rfl

/-- **C07 (link intake)**: any frame read from the device is handled without an out-of-range access, and the dispatch
loop continues afterwards.  (The model treats an empty frame as a runt; in the Go code a read of zero bytes means the
device was closed and ends the loop.) -/
theorem ethIntake_continues (frame : List Nat) : ∃ r, ethIntake frame = some (true, r) :=
  ⟨_, ethIntake_eq frame⟩

/-- `fdbased.dispatchLoop` over the frames the device yields, in order: `dispatch` is called again exactly while it
answers `cont = true` without error; a fault (`none`) or `cont = false` ends the loop and the frames after it are
never read. The result lists what was handed to the network dispatcher per frame read. -/
def dispatchLoop : List (List Nat) → Option (List (Option (Nat × List Nat)))
  | [] => some []
  | f :: fs =>
    match ethIntake f with
    | none => none
    | some (false, _) => some []
    | some (true, r) => (dispatchLoop fs).map (r :: ·)

theorem dispatchLoop_eq (fs : List (List Nat)) :
    dispatchLoop fs = some (fs.map fun f => if 14 < f.length then some (Model.Header.rd16 f 12, f.drop 14) else none) := by
  induction fs with
  | nil => rfl
  | cons f fs ih => simp only [dispatchLoop, ethIntake_eq, ih, Option.map_some, List.map_cons]

/-- **C07 (link intake, every history)**: whatever sequence of frames the device yields, the loop never faults and
never stops: every frame is read, each frame longer than a link header is handed on and each shorter one is dropped.
(`dispatch` as it is since 7b53298, where a runt no longer ends the loop.) -/
theorem dispatchLoop_serves_every_frame (fs : List (List Nat)) :
    ∃ rs, dispatchLoop fs = some rs ∧ rs.length = fs.length ∧
      ∀ i (h : i < fs.length) (h' : i < rs.length), (rs[i].isSome = true ↔ 14 < fs[i].length) := by
  refine ⟨_, dispatchLoop_eq fs, List.length_map _, fun i h h' => ?_⟩
  rw [List.getElem_map]
  split <;> simp [*]

/-- an empty frame, a 14-byte runt and a 15-byte frame: all three are read, only the last is handed on -/
example : dispatchLoop [[], List.replicate 14 0, List.replicate 12 0 ++ [8, 0, 7]] = some [none, none, some (2048, [7])] := by
  decide

/-- ARP packets are only read after the validity check, which guarantees all 28 bytes -/
theorem arp_read_after_guard (a : List Nat) (h : Model.Header.arpIsValid a = true) : 28 ≤ a.length :=
  Props.Hdr.arpIsValid_length a h

/-- a truncated datagram whose IHL nibble claims 60 header bytes is dropped, not mis-indexed -/
example : ipv4Inbound [[10, 0, 0, 1]] { views := [{ data := [0x4f, 0, 0, 20, 0, 0, 0, 0, 64, 17, 0, 0, 10, 0, 0, 9, 10, 0, 0, 1] }], size := 20 }
    = some (.drop "ipv4.invalid") := by decide

end Props.C07
