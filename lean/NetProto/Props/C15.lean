import NetProto.Generated.Arith
import NetProto.Generated.Consts
import NetProto.Props.ByteLemmas
/-!
# C15 — header codecs and the Internet checksum

`Checksum` is the RFC 1071 sum (`checksum_eq_rfc1071`), and that sum is `ocRep` of the plain integer sum `wsum` of the
16-bit words: a chain of `Checksum` calls folds one integer sum (`checksum_rep`), and a frame whose checksum field holds
the complement verifies (`verifies_fill`).  Then the layouts: the RFC decoders read back what the encoders write.
-/
namespace C15
open Model.Header Spec.Rfc

def Bytes (l : List Nat) : Prop := ∀ x ∈ l, x < 256

/-! The constants the hand-written layouts assume are the ones the code has now -/
theorem offsets_anchor :
    Gen.Consts.versIHL = 0 ∧ Gen.Consts.tos = 1 ∧ Gen.Consts.totalLen = 2 ∧ Gen.Consts.id = 4 ∧
    Gen.Consts.flagsFO = 6 ∧ Gen.Consts.ttl = 8 ∧ Gen.Consts.protocol = 9 ∧ Gen.Consts.checksum = 10 ∧
    Gen.Consts.srcAddr = 12 ∧ Gen.Consts.dstAddr = 16 ∧ Gen.Consts.IPv4MinimumSize = 20 ∧
    Gen.Consts.srcPort = 0 ∧ Gen.Consts.dstPort = 2 ∧ Gen.Consts.seqNum = 4 ∧ Gen.Consts.ackNum = 8 ∧
    Gen.Consts.dataOffset = 12 ∧ Gen.Consts.tcpFlags = 13 ∧ Gen.Consts.winSize = 14 ∧
    Gen.Consts.tcpChecksum = 16 ∧ Gen.Consts.urgentPtr = 18 ∧ Gen.Consts.TCPMinimumSize = 20 ∧
    Gen.Consts.udpSrcPort = 0 ∧ Gen.Consts.udpDstPort = 2 ∧ Gen.Consts.udpLength = 4 ∧
    Gen.Consts.udpChecksum = 6 ∧ Gen.Consts.UDPMinimumSize = 8 ∧
    Gen.Consts.versTCFL = 0 ∧ Gen.Consts.payloadLen = 4 ∧ Gen.Consts.nextHdr = 6 ∧ Gen.Consts.hopLimit = 7 ∧
    Gen.Consts.v6SrcAddr = 8 ∧ Gen.Consts.v6DstAddr = 24 ∧ Gen.Consts.IPv6MinimumSize = 40 ∧
    Gen.Consts.dstMAC = 0 ∧ Gen.Consts.srcMAC = 6 ∧ Gen.Consts.ethType = 12 ∧
    Gen.Consts.EtheernetMinimumsize = 14 ∧ Gen.Consts.ARPSize = 28 := by decide

theorem option_kinds_anchor :
    Gen.Consts.TCPOptionEOL = 0 ∧ Gen.Consts.TCPOptionNOP = 1 ∧ Gen.Consts.TCPOptionMSS = 2 ∧
    Gen.Consts.TCPOptionWS = 3 ∧ Gen.Consts.TCPOptionSACKPermitted = 4 ∧ Gen.Consts.TCPOptionSACK = 5 ∧
    Gen.Consts.TCPOptionTS = 8 ∧ Gen.Consts.MaxWndScale = 14 ∧ Gen.Consts.TCPMaxSACKBlocks = 4 := by decide

/-- the regenerated `ChecksumCombine` is the model's `combine` -/
theorem combine_eq_generated (a b : BitVec 16) :
    (Gen.Arith.ChecksumCombine a b).toNat = combine a.toNat b.toNat := by
  unfold Gen.Arith.ChecksumCombine combine
  have ha := a.isLt
  have hb := b.isLt
  simp only [BitVec.toNat_setWidth, BitVec.toNat_add, BitVec.toNat_ushiftRight, BitVec.toNat_ofNat,
    Nat.shiftRight_eq_div_pow, Nat.reducePow, Nat.reduceMod] at *
  omega

/-- `ChecksumCombine` is end-around-carry addition (∀ pairs) -/
theorem combine_spec (a b : Nat) (ha : a < 65536) (hb : b < 65536) : combine a b = ocAdd a b := by
  unfold combine ocAdd
  simp only
  split <;> omega

def wsum (l : List Nat) : Nat := (words l).foldl (· + ·) 0

/-- canonical one's-complement representative of an integer sum -/
def ocRep (s : Nat) : Nat := if s = 0 then 0 else (s - 1) % 65535 + 1

/-- in linear form: with `ocRep _` generalized to a variable, what follows is arithmetic that `omega` does without `%` -/
theorem ocRep_spec (s : Nat) : ∃ q, s = 65535 * q + ocRep s ∧ ocRep s ≤ 65535 ∧ (ocRep s = 0 → s = 0) := by
  unfold ocRep
  split
  · exact ⟨0, by omega⟩
  · exact ⟨(s - 1) / 65535, by omega⟩

theorem ocRep_lt (s : Nat) : ocRep s < 65536 := by unfold ocRep; split <;> omega

theorem ocRep_of_lt (s : Nat) (h : s < 65536) : ocRep s = s := by unfold ocRep; split <;> omega

theorem ocAdd_ocRep (s w : Nat) (hw : w < 65536) : ocAdd (ocRep s) w = ocRep (s + w) := by
  obtain ⟨q1, h1⟩ := ocRep_spec s
  obtain ⟨q2, h2⟩ := ocRep_spec (s + w)
  unfold ocAdd
  generalize ocRep s = r1, ocRep (s + w) = r2 at h1 h2 ⊢
  simp only
  split <;> omega

theorem wsum_eq_sum (l : List Nat) : wsum l = (words l).sum := List.sum_eq_foldl_nat.symm

theorem wsum_nil : wsum [] = 0 := rfl

theorem wsum_cons_cons (a b : Nat) (t : List Nat) : wsum (a :: b :: t) = a * 256 + b + wsum t := by
  rw [wsum_eq_sum, wsum_eq_sum, words, List.sum_cons]

theorem words_append_even (a b : List Nat) (h : a.length % 2 = 0) : words (a ++ b) = words a ++ words b := by
  -- the cases of `words.induct`, here and below: `[]`, `[a]`, `a :: b :: t`
  induction a using words.induct with
  | case1 => rfl
  | case2 x => simp at h
  | case3 x y t ih =>
    have ht : t.length % 2 = 0 := by simp at h; omega
    simp [words, ih ht]

theorem wsum_append_even (a b : List Nat) (h : a.length % 2 = 0) : wsum (a ++ b) = wsum a + wsum b := by
  rw [wsum_eq_sum, wsum_eq_sum, wsum_eq_sum, words_append_even a b h, List.sum_append_nat]

theorem wsum_be16 (v : Nat) (h : v < 65536) : wsum (be16 v) = v := by
  rw [be16, wsum_cons_cons, wsum_nil]; omega

theorem wsum_be32 (v : Nat) (h : v < 4294967296) : wsum (be32 v) = v / 65536 + v % 65536 := by
  rw [be32, wsum_cons_cons, wsum_cons_cons, wsum_nil]; omega

theorem bytes_nil : Bytes [] := fun _ h => nomatch h

theorem bytes_cons {x : Nat} {l : List Nat} : Bytes (x :: l) ↔ x < 256 ∧ Bytes l := by
  simp [Bytes]

theorem bytes_append {a b : List Nat} (ha : Bytes a) (hb : Bytes b) : Bytes (a ++ b) :=
  fun x hx => (List.mem_append.mp hx).elim (ha x) (hb x)

theorem bytes_take {l : List Nat} (n : Nat) (h : Bytes l) : Bytes (l.take n) := fun x hx => h x (List.mem_of_mem_take hx)

theorem bytes_drop {l : List Nat} (n : Nat) (h : Bytes l) : Bytes (l.drop n) := fun x hx => h x (List.mem_of_mem_drop hx)

theorem bytes_be16 (v : Nat) : Bytes (be16 v) :=
  bytes_cons.mpr ⟨Nat.mod_lt _ (by decide), bytes_cons.mpr ⟨Nat.mod_lt _ (by decide), bytes_nil⟩⟩

theorem bytes_be32 (v : Nat) : Bytes (be32 v) :=
  bytes_cons.mpr ⟨Nat.mod_lt _ (by decide), bytes_cons.mpr ⟨Nat.mod_lt _ (by decide), bytes_be16 v⟩⟩

theorem ocSum_rep (buf : List Nat) (s : Nat) (hb : Bytes buf) : ocSum buf (ocRep s) = ocRep (s + wsum buf) := by
  induction buf using words.induct generalizing s with
  | case1 => rfl
  | case2 a =>
    have := hb a (by simp)
    show ocAdd (ocRep s) (a * 256) = ocRep (s + (0 + a * 256))
    rw [ocAdd_ocRep _ _ (by omega), Nat.zero_add]
  | case3 a b t ih =>
    have ha := hb a (by simp)
    have hb' := hb b (by simp)
    show ocSum t (ocAdd (ocRep s) (a * 256 + b)) = _
    rw [ocAdd_ocRep _ _ (by omega), ih _ (fun x hx => hb x (by simp [hx])), wsum_cons_cons, Nat.add_assoc]

theorem ocSum_eq (buf : List Nat) (init : Nat) (hb : Bytes buf) (hi : init < 65536) :
    ocSum buf init = ocRep (init + wsum buf) := by
  rw [← ocSum_rep buf init hb, ocRep_of_lt init hi]

/-- the final fold of the 32-bit accumulator: the high half counts once because `65536 ≡ 1 (mod 65535)` -/
theorem combine_exact (v : Nat) (h : v < 4294967296) :
    combine (v % 65536) (v / 65536 % 65536) = ocRep v := by
  have hhi : v / 65536 < 65536 := by omega
  rw [Nat.mod_eq_of_lt hhi, combine_spec _ _ (Nat.mod_lt _ (by decide)) hhi,
    ← ocRep_of_lt (v % 65536) (Nat.mod_lt _ (by decide)), ocAdd_ocRep _ _ hhi]
  unfold ocRep
  split <;> split <;> omega

theorem sumPairs_eq (l : List Nat) (v : Nat) (heven : l.length % 2 = 0)
    (hb : v + wsum l < 4294967296) : sumPairs l v = v + wsum l := by
  induction l using words.induct generalizing v with
  | case1 => simp [sumPairs, wsum, words]
  | case2 a => simp at heven
  | case3 a b t ih =>
    have ht : t.length % 2 = 0 := by simp at heven; omega
    rw [wsum_cons_cons] at hb ⊢
    unfold sumPairs
    have hlt : v + (a * 256 + b) < 4294967296 :=
      Nat.lt_of_le_of_lt (Nat.add_le_add_left (Nat.le_add_right _ _) _) hb
    have hm : (v + (a * 256 + b)) % 4294967296 = v + (a * 256 + b) := Nat.mod_eq_of_lt hlt
    rw [hm, ih _ ht (by omega)]
    omega

theorem wsum_odd (l : List Nat) (hodd : l.length % 2 = 1) :
    wsum l = wsum (l.take (l.length - 1)) + l.getD (l.length - 1) 0 * 256 := by
  induction l using words.induct with
  | case1 => simp at hodd
  | case2 a => simp [wsum, words]
  | case3 a b t ih =>
    have ht : t.length % 2 = 1 := by simp at hodd; omega
    have e1 : (a :: b :: t).length - 1 = (t.length - 1) + 2 := by simp only [List.length_cons]; omega
    rw [wsum_cons_cons, e1, List.take_succ_cons, List.take_succ_cons, wsum_cons_cons, ih ht]
    simp
    omega

theorem checksum_eq_rfc1071_of_bound (buf : List Nat) (init : Nat) (hb : Bytes buf) (hi : init < 65536)
    (hsum : init + wsum buf < 4294967296) : checksum buf init = ocSum buf init := by
  rw [ocSum_eq buf init hb hi]
  unfold checksum
  by_cases hodd : buf.length % 2 = 1
  · simp only [hodd, if_true]
    have hw := wsum_odd buf hodd
    have hev : (buf.take (buf.length - 1)).length % 2 = 0 := by simp; omega
    have hm : (init + buf.getD (buf.length - 1) 0 * 256) % 4294967296 = init + buf.getD (buf.length - 1) 0 * 256 :=
      Nat.mod_eq_of_lt (by omega)
    rw [hm, sumPairs_eq _ _ hev (by omega)]
    have : init + buf.getD (buf.length - 1) 0 * 256 + wsum (List.take (buf.length - 1) buf) = init + wsum buf := by omega
    rw [this]
    exact combine_exact _ hsum
  · simp only [hodd, if_false]
    rw [sumPairs_eq _ _ (by omega) hsum]
    exact combine_exact _ hsum

theorem wsum_le (l : List Nat) (hb : Bytes l) : 2 * wsum l ≤ 65535 * (l.length + 1) := by
  induction l using words.induct with
  | case1 => simp [wsum, words]
  | case2 a =>
    have := hb a (by simp)
    simp [wsum, words]; omega
  | case3 a b t ih =>
    have ha := hb a (by simp)
    have hb' := hb b (by simp)
    have := ih (fun x hx => hb x (by simp [hx]))
    rw [wsum_cons_cons]
    simp only [List.length_cons]
    omega

/-- **Property clause**: for every buffer of up to 131 070 bytes and every 16-bit initial value, `Checksum` is the
RFC 1071 one's-complement sum.  (65 535 words of at most 65 535 each: with `init` the uint32 accumulator does not wrap.) -/
theorem checksum_eq_rfc1071 (buf : List Nat) (init : Nat) (hb : Bytes buf) (hi : init < 65536)
    (hlen : buf.length ≤ 131070) : checksum buf init = ocSum buf init := by
  apply checksum_eq_rfc1071_of_bound buf init hb hi
  have := wsum_le buf hb
  omega

/-- with `wsum_append_even`: every chain of `Checksum` calls, in whatever order, is `ocRep` of one integer sum -/
theorem checksum_rep (buf : List Nat) (s : Nat) (hb : Bytes buf) (hlen : buf.length ≤ 131070) :
    checksum buf (ocRep s) = ocRep (s + wsum buf) := by
  rw [checksum_eq_rfc1071 buf _ hb (ocRep_lt s) hlen, ocSum_rep buf s hb]

theorem checksum_zero (buf : List Nat) (hb : Bytes buf) (hlen : buf.length ≤ 131070) :
    checksum buf 0 = ocRep (wsum buf) := by
  have := checksum_rep buf 0 hb hlen
  rwa [Nat.zero_add] at this

theorem verify_complement (s : Nat) : ocRep (s + (65535 - ocRep s)) = 65535 := by
  obtain ⟨q1, h1⟩ := ocRep_spec s
  obtain ⟨q2, h2⟩ := ocRep_spec (s + (65535 - ocRep s))
  generalize ocRep (s + (65535 - ocRep s)) = r2 at h2 ⊢
  generalize ocRep s = r1 at h1 h2
  omega

theorem verify_complement_or_ones (s : Nat) :
    ocRep (s + (if 65535 - ocRep s == 0 then 65535 else 65535 - ocRep s)) = 65535 := by
  split
  · rename_i h
    rw [beq_iff_eq] at h
    unfold ocRep at *
    split at h <;> split <;> omega
  · exact verify_complement s

/-- `s`: what was summed before the frame (the pseudo header) -/
theorem ocSum_frame (pre post : List Nat) (s c : Nat) (hpre : pre.length % 2 = 0) (hb1 : Bytes pre) (hb2 : Bytes post)
    (hc : c < 65536) : ocSum (pre ++ be16 c ++ post) (ocRep s) = ocRep (s + wsum pre + wsum post + c) := by
  rw [ocSum_rep _ _ (bytes_append (bytes_append hb1 (bytes_be16 _)) hb2),
    wsum_append_even _ post (by rw [List.length_append]; show (pre.length + 2) % 2 = 0; omega),
    wsum_append_even pre _ hpre, wsum_be16 _ hc]
  -- `congr 1` would try to decide the equation of the two sums by evaluation
  refine congrArg ocRep ?_
  omega

/-- **a frame carrying the complemented sum verifies**; `s` is where the pseudo header goes.  Every "checksum
verifies" theorem of C06 and C13 is this, after showing that the sender's chain of `Checksum` calls folds the same sum. -/
theorem verifies_fill (pre post : List Nat) (s : Nat) (hpre : pre.length % 2 = 0) (hb1 : Bytes pre) (hb2 : Bytes post) :
    ocSum (pre ++ be16 (65535 - ocRep (s + wsum pre + wsum post)) ++ post) (ocRep s) = 65535 := by
  rw [ocSum_frame pre post s _ hpre hb1 hb2 (by omega), verify_complement]

/-- ... also when a computed zero is sent as all ones (RFC 768) -/
theorem verifies_fill_or_ones (pre post : List Nat) (s : Nat) (hpre : pre.length % 2 = 0) (hb1 : Bytes pre)
    (hb2 : Bytes post) :
    ocSum (pre ++ be16 (if 65535 - ocRep (s + wsum pre + wsum post) == 0 then 65535
      else 65535 - ocRep (s + wsum pre + wsum post)) ++ post) (ocRep s) = 65535 := by
  rw [ocSum_frame pre post s _ hpre hb1 hb2 (by split <;> omega), verify_complement_or_ones]

/-- chaining over an even-length prefix is sound: the per-view loops of the senders rely on it -/
theorem ocSum_append_even (a b : List Nat) (init : Nat) (h : a.length % 2 = 0) :
    ocSum (a ++ b) init = ocSum b (ocSum a init) := by
  unfold ocSum
  rw [words_append_even a b h, List.foldl_append]

/-- …and unsound over an odd-length prefix (kernel-checked counter-witness) -/
theorem ocSum_append_odd_witness : ocSum ([1] ++ [2]) 0 ≠ ocSum [2] (ocSum [1] 0) := by decide

def B8 (x : Nat) : Prop := x < 256
def B16 (x : Nat) : Prop := x < 65536
def B32 (x : Nat) : Prop := x < 4294967296

/-! The layouts.  Each `*_decode_encode` theorem is the layout's `Props.Hdr.*Encode_bytes` followed by its
`Props.Hdr.decode*_bytes`. -/

theorem udp_decode_encode (old : List Nat) (u : UDPFields) (hl : 8 ≤ old.length)
    (h1 : B16 u.srcPort) (h2 : B16 u.dstPort) (h3 : B16 u.length) (h4 : B16 u.checksum) :
    decodeUDP (udpEncode old u) = some ⟨u.srcPort, u.dstPort, u.length, u.checksum⟩ := by
  rw [Props.Hdr.udpEncode_bytes old u hl, Props.Hdr.decodeUDP_bytes _ _ _ _ _ h1 h2 h3 h4]

theorem tcp_decode_encode (old : List Nat) (t : TCPFields) (hl : 20 ≤ old.length)
    (h1 : B16 t.srcPort) (h2 : B16 t.dstPort) (h3 : B32 t.seq) (h4 : B32 t.ack)
    (h6 : B8 t.flags) (h7 : B16 t.window) (h8 : B16 t.checksum) (h9 : B16 t.urgent) :
    decodeTCP (tcpEncode old t) =
      some ⟨t.srcPort, t.dstPort, t.seq, t.ack, t.dataOffset / 4 % 16, 0, t.flags, t.window, t.checksum, t.urgent⟩ := by
  rw [Props.Hdr.tcpEncode_bytes old t hl,
    Props.Hdr.decodeTCP_bytes _ _ _ _ _ _ _ _ _ _ h1 h2 h3 h4 (Nat.mod_lt _ (by decide)) h6 h7 h8 h9]
  -- the data-offset byte holds the header length in words in its high nibble
  have e1 : t.dataOffset / 4 * 16 % 256 / 16 = t.dataOffset / 4 % 16 := by omega
  have e2 : t.dataOffset / 4 * 16 % 256 % 16 = 0 := by omega
  rw [e1, e2]

theorem tcp_dataOffset_spec (old : List Nat) (t : TCPFields) (hl : 20 ≤ old.length) (_h5 : B8 t.dataOffset) :
    tcpDataOffset (tcpEncode old t) = (t.dataOffset / 4 % 16) * 4 := by
  rw [Props.Hdr.tcpEncode_bytes old t hl]
  show t.dataOffset / 4 * 16 % 256 / 16 * 4 = _
  omega

theorem or_disjoint (a b k : Nat) (hb : b < 2 ^ k) : (a * 2 ^ k) ||| b = a * 2 ^ k + b := by
  rw [← Nat.shiftLeft_eq, Nat.shiftLeft_add_eq_or_of_lt hb]

theorem ipv4_flagsFO (fl fo : Nat) (hfo : fo < 65536) :
    ((fl * 8192) % 65536) ||| (fo / 8) = (fl % 8) * 8192 + fo / 8 ∧ (fl % 8) * 8192 + fo / 8 < 65536 := by
  have e : (fl * 8192) % 65536 = (fl % 8) * 2 ^ 13 := by omega
  rw [e, or_disjoint _ _ 13 (by omega)]
  omega

theorem ipv4_decode_encode (old : List Nat) (f : IPv4Fields) (hl : 20 ≤ old.length)
    (h2 : B8 f.tos) (h3 : B16 f.totalLength) (h4 : B16 f.id)
    (h6 : B16 f.fragmentOffset) (h7 : B8 f.ttl) (h8 : B8 f.protocol) (h9 : B16 f.checksum)
    (hs : f.src.length = 4) (hd : f.dst.length = 4) :
    decodeIPv4 (ipv4Encode old f) =
      some ⟨4, f.ihl / 4 % 16, f.tos, f.totalLength, f.id, f.flags % 8, f.fragmentOffset / 8, f.ttl, f.protocol,
            f.checksum, f.src, f.dst⟩ := by
  obtain ⟨hor, hff⟩ := ipv4_flagsFO f.flags f.fragmentOffset h6
  rw [Props.Hdr.ipv4Encode_bytes old f hl hs hd, hor,
    Props.Hdr.decodeIPv4_bytes _ _ _ _ _ _ _ _ _ _ _ (Nat.mod_lt _ (by decide)) h2 h3 h4 hff h7 h8 h9 hs hd]
  unfold B16 at h6
  have e1 : (64 + f.ihl / 4 % 16) % 256 / 16 = 4 := by omega
  have e2 : (64 + f.ihl / 4 % 16) % 256 % 16 = f.ihl / 4 % 16 := by omega
  have e3 : (f.flags % 8 * 8192 + f.fragmentOffset / 8) / 8192 = f.flags % 8 := by omega
  have e4 : (f.flags % 8 * 8192 + f.fragmentOffset / 8) % 8192 = f.fragmentOffset / 8 := by omega
  rw [e1, e2, e3, e4]

/-- accessors read back what the encoder wrote (masked to wire width) -/
theorem ipv4_accessors (old : List Nat) (f : IPv4Fields) (hl : 20 ≤ old.length)
    (h1 : B8 f.ihl) (h3 : B16 f.totalLength) (h4 : B16 f.id) (h5 : B8 f.flags)
    (h6 : B16 f.fragmentOffset) (h9 : B16 f.checksum) :
    let b := ipv4Encode old f
    ipv4HeaderLength b = (f.ihl / 4 % 16) * 4 ∧ ipv4ID b = f.id ∧ ipv4Flags b = f.flags % 8 ∧
    ipv4FragmentOffset b = f.fragmentOffset / 8 * 8 ∧ ipv4TotalLength b = f.totalLength ∧ ipv4Checksum b = f.checksum := by
  obtain ⟨hor, hff⟩ := ipv4_flagsFO f.flags f.fragmentOffset h6
  unfold B16 at h6
  simp only [Props.Hdr.ipv4Encode_head old f hl, hor, ipv4HeaderLength, ipv4ID, ipv4Flags, ipv4FragmentOffset,
    ipv4TotalLength, ipv4Checksum, rd16, rd8, be16, List.cons_append, List.nil_append, List.getD_cons_succ,
    List.getD_cons_zero, Props.Hdr.be16_val _ h3, Props.Hdr.be16_val _ h4, Props.Hdr.be16_val _ hff,
    Props.Hdr.be16_val _ h9]
  refine ⟨?_, trivial, ?_, ?_, trivial, trivial⟩ <;> omega

theorem eth_decode_encode (old src dst : List Nat) (ty : Nat) (hl : 14 ≤ old.length)
    (hs : src.length = 6) (hd : dst.length = 6) (ht : B16 ty) :
    decodeEth (ethEncode old src dst ty) = some ⟨dst, src, ty⟩ := by
  rw [Props.Hdr.ethEncode_bytes old src dst ty hl hs hd, Props.Hdr.decodeEth_bytes src dst _ ty hs hd ht]

/-- non-vacuity: a concrete header meets the hypotheses -/
example : decodeIPv4 (ipv4Encode (List.replicate 20 0)
    ⟨20, 0, 40, 7, 2, 0, 64, 6, 0, [10, 0, 0, 1], [10, 0, 0, 2]⟩) =
    some ⟨4, 5, 0, 40, 7, 2, 0, 64, 6, 0, [10, 0, 0, 1], [10, 0, 0, 2]⟩ := by decide

end C15
