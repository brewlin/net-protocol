import NetProto.Model.Ws
/-! For `Props/C20.lean`: the predicates its theorems assume of a message (`okTok`, `okKey`, `okVal`, `message`,
`lineStatus`) and the lemmas on the HTTP parser and WebSocket codec models. -/
namespace Props.C20
open Model.Http

theorem str_append (a b : String) : str (a ++ b) = str a ++ str b := by
  simp [str]

theorem hasPrefix_append : ∀ (x y d : Bytes), d.length ≤ x.length → hasPrefix (x ++ y) d = hasPrefix x d
  | _, _, [], _ => by simp [hasPrefix]
  | [], _, _ :: _, h => by simp at h
  | a :: as, y, e :: es, h => by
    simp only [List.cons_append, hasPrefix]
    rw [hasPrefix_append as y es (by simpa using h)]

theorem hasPrefix_self : ∀ (d r : Bytes), hasPrefix (d ++ r) d = true
  | [], r => by cases r <;> simp [hasPrefix]
  | a :: as, r => by simp [hasPrefix, hasPrefix_self as r]

theorem matchUntil_of_index (d k r : Bytes) (h : index d (k ++ (d ++ r)) = some k.length) :
    matchUntil (k ++ (d ++ r)) d = (k, r) := by
  simp [matchUntil, h]

theorem index_skip (c : Nat) (ds t : Bytes) :
    ∀ k : Bytes, c ∉ k → index (c :: ds) (k ++ t) = (index (c :: ds) t).map (· + k.length)
  | [], _ => by simp
  | x :: xs, h => by
    simp only [List.mem_cons, not_or] at h
    have : (x == c) = false := by simp; exact fun e => h.1 e.symm
    simp [index, hasPrefix, this, index_skip c ds t xs h.2, Function.comp_def, Nat.add_assoc]

/-- `a ≠ b`: the delimiter cannot begin on the text's last byte and end on its own first -/
theorem index_pair (a b : Nat) (hab : a ≠ b) (r : Bytes) :
    ∀ k : Bytes, index [a, b] k = none → index [a, b] (k ++ a :: b :: r) = some k.length
  | [], _ => by simp [index, hasPrefix]
  | x :: xs, h => by
    rw [index] at h
    split at h
    · simp at h
    · rename_i hp
      have ih := index_pair a b hab r xs (by simpa using h)
      have hp' : hasPrefix (x :: (xs ++ a :: b :: r)) [a, b] = false := by
        cases xs with
        | nil => simp [hasPrefix]; intro _; exact hab
        | cons y ys => simpa [hasPrefix] using hp
      simp [index, hp', ih]

def okTok (t : Bytes) : Prop := t ≠ [] ∧ 32 ∉ t
def okKey (k : Bytes) : Prop := k ≠ [] ∧ index colonSp k = none ∧ index crlf k = none
def okVal (v : Bytes) : Prop := v ≠ [] ∧ index crlf v = none
instance : DecidablePred okTok := fun _ => by unfold okTok; infer_instance
instance : DecidablePred okKey := fun _ => by unfold okKey; infer_instance
instance : DecidablePred okVal := fun _ => by unfold okVal; infer_instance

theorem okTok.cut {a : Bytes} (h : okTok a) (r : Bytes) : matchUntil (a ++ (sp ++ r)) sp = (a, r) :=
  matchUntil_of_index sp a r (by simp [sp, index_skip 32 [] _ a h.2, index, hasPrefix])

theorem okKey.cut {k : Bytes} (h : okKey k) (r : Bytes) : matchUntil (k ++ (colonSp ++ r)) colonSp = (k, r) :=
  matchUntil_of_index colonSp k r (index_pair 58 32 (by decide) r k h.2.1)

theorem okVal.cut {v : Bytes} (h : okVal v) (r : Bytes) : matchUntil (v ++ (crlf ++ r)) crlf = (v, r) :=
  matchUntil_of_index crlf v r (index_pair 13 10 (by decide) r v h.2)

theorem okKey.not_blank {k : Bytes} (hk : okKey k) (r : Bytes) : hasPrefix (k ++ (colonSp ++ r)) crlf = false := by
  obtain ⟨hne, _, hc⟩ := hk
  match k, hne, hc with
  | [x], _, _ => simp [hasPrefix, colonSp, crlf]
  | x :: y :: ys, _, hc =>
    rw [index] at hc
    split at hc
    · simp at hc
    · rename_i hp
      simpa [hasPrefix, crlf] using hp

/-- a header line burns one unit of fuel; `parse` hands over the text's length plus one -/
theorem headerLoop_lines (body : Bytes) : ∀ (hs acc : List (Bytes × Bytes)) (fuel : Nat),
    (∀ h ∈ hs, okKey h.1 ∧ okVal h.2) → (headerLines hs).length < fuel →
    headerLoop fuel (headerLines hs ++ (crlf ++ body)) acc = (acc ++ hs, body)
  | _, _, 0, _, hf => by simp at hf
  | [], acc, n + 1, _, _ => by simp [headerLines, headerLoop, crlf, hasPrefix]
  | (k, v) :: rest, acc, n + 1, hok, hf => by
    obtain ⟨⟨hk, hv⟩, hok⟩ := List.forall_mem_cons.mp hok
    have ih := headerLoop_lines body rest (acc ++ [(k, v)]) n hok (by simp [headerLines, crlf] at hf; omega)
    rw [headerLoop]
    simp [headerLines, hk.1, hk.not_blank, hk.cut, hv.cut, hv.1, ih]

/-- a start line and header section in the grammar both builders emit -/
def message (a b c : Bytes) (hs : List (Bytes × Bytes)) (body : Bytes) : Bytes :=
  a ++ (sp ++ (b ++ (sp ++ (c ++ (crlf ++ (headerLines hs ++ crlf ++ body))))))

/-- the status `parse` leaves on the connection for a start line `a b c` -/
def lineStatus (st : Nat) (a c : Bytes) : Nat :=
  let st1 := match getMethod a with
    | .notSupported => setStatus st 501
    | .unknown => 400
    | _ => st
  if equalFold c (str "HTTP/1.0") || equalFold c (str "HTTP/1.1") then st1 else setStatus st1 400

/-- the parser recovers every part of a message in the grammar: start line, every header in order, the body byte for
byte -/
theorem parse_message (st : Nat) (a b c body : Bytes) (hs : List (Bytes × Bytes))
    (ha : okTok a) (hb : okTok b) (hc : okVal c) (hh : ∀ h ∈ hs, okKey h.1 ∧ okVal h.2) :
    parse st (message a b c hs body)
      = { method := a, uri := b, version := c, headers := hs, body := body, status := lineStatus st a c } := by
  have hl := headerLoop_lines body hs [] ((headerLines hs ++ crlf ++ body).length + 1) hh (by simp; omega)
  rw [← List.append_assoc] at hl
  unfold parse message
  generalize headerLines hs ++ crlf ++ body = t at hl ⊢
  simp only [ha.cut, hb.cut, hc.cut, ha.1, hb.1, hc.1, if_false, hl, lineStatus, List.nil_append]
  split <;> rfl

section ws
open Model.Ws

theorem beVal_append (a : List Nat) (x : Nat) : beVal (a ++ [x]) = beVal a * 256 + x := by
  simp [beVal, List.foldl_append]

theorem beVal_beBytes : ∀ (n v : Nat), v < 256 ^ n → beVal (beBytes n v) = v
  | 0, v, h => by simp at h; simp [beBytes, beVal, h]
  | n + 1, v, h => by
    have h' : v / 256 < 256 ^ n := by
      rw [Nat.div_lt_iff_lt_mul (by decide)]; rw [Nat.pow_succ] at h; exact h
    rw [beBytes, beVal_append, beVal_beBytes n _ h']; omega

theorem beBytes_length : ∀ (n v : Nat), (beBytes n v).length = n
  | 0, _ => rfl
  | n + 1, v => by simp [beBytes, beBytes_length n]

theorem readn_append_n (n : Nat) (a r : List Nat) (h : a.length = n) : readn n (a ++ r) = some (a, r) := by
  subst h; simp [readn]

theorem maskFrom_involutive (key : List Nat) : ∀ (b : List Nat) (pos : Nat), maskFrom key pos (maskFrom key pos b) = b
  | [], _ => rfl
  | x :: xs, pos => by
    simp [maskFrom, maskFrom_involutive key xs (pos + 1), Nat.xor_assoc]

theorem maskBytes_involutive (key b : List Nat) : maskBytes key (maskBytes key b) = b := maskFrom_involutive key b 0

theorem maskFrom_length (key : List Nat) : ∀ (b : List Nat) (pos : Nat), (maskFrom key pos b).length = b.length
  | [], _ => rfl
  | x :: xs, pos => by simp [maskFrom, maskFrom_length key xs (pos + 1)]

theorem spec_be_succ (n v : Nat) : Spec.Ws.be (n + 1) v = Spec.Ws.be n (v / 256) ++ [v % 256] := by
  unfold Spec.Ws.be
  rw [List.range_succ_eq_map]
  simp [Function.comp_def, Nat.pow_succ, Nat.div_div_eq_div_mul, Nat.mul_comm]

theorem spec_be_eq : ∀ (n v : Nat), Spec.Ws.be n v = beBytes n v
  | 0, _ => rfl
  | n + 1, v => by rw [spec_be_succ, beBytes, spec_be_eq n]

theorem spec_unbe_acc : ∀ (b : List Nat) (acc : Nat),
    b.foldl (fun a x => a * 256 + x) acc = acc * 256 ^ b.length + Spec.Ws.unbe b
  | [], acc => by simp [Spec.Ws.unbe]
  | x :: xs, acc => by
    rw [List.foldl_cons, spec_unbe_acc xs, Spec.Ws.unbe]
    simp [Nat.pow_succ, Nat.add_mul, Nat.mul_assoc, Nat.mul_comm 256, Nat.add_assoc]

theorem spec_unbe_eq (b : List Nat) : Spec.Ws.unbe b = beVal b := by
  simp [beVal, spec_unbe_acc]

theorem spec_xor_from (key : List Nat) : ∀ (d : List Nat) (pos : Nat),
    (d.zipIdx pos).map (fun p => p.1 ^^^ key.getD (p.2 % 4) 0) = maskFrom key pos d
  | [], _ => rfl
  | x :: xs, pos => by
    have ih := spec_xor_from key xs (pos + 1)
    simp only [List.getD_eq_getElem?_getD] at ih ⊢
    simp [List.zipIdx_cons, maskFrom, ih]

theorem spec_xor_eq (key d : List Nat) : Spec.Ws.xorKey key d = maskBytes key d := spec_xor_from key d 0

theorem readPayload_frame (key : Option (List Nat)) (data rest : List Nat) : (∀ k, key = some k → k.length = 4) →
    readPayload key.isSome data.length ((match key with | some k => k ++ maskBytes k data | none => data) ++ rest)
      = .data data rest := by
  cases key with
  | none => simp [readPayload, readn_append_n _ data rest rfl]
  | some k =>
    intro hk
    have e1 := readn_append_n 4 k (maskBytes k data ++ rest) (hk k rfl)
    have e2 := readn_append_n data.length (maskBytes k data) rest (maskFrom_length k data 0)
    simp [readPayload, e1, e2, maskBytes_involutive]

/-- RFC 6455 §5.2 after the first byte: length code with mask bit `m`, then the minimal extended length -/
def lenField (m n : Nat) : List Nat :=
  if n ≤ 125 then [m + n] else if n ≤ 65535 then [m + 126] ++ beBytes 2 n else [m + 127] ++ beBytes 8 n

theorem encodeFrame_eq (op : Nat) (key : Option (List Nat)) (p : List Nat) :
    Spec.Ws.encodeFrame op key p = [128 + op] ++ lenField (if key.isSome then 128 else 0) p.length ++
      (match key with | some k => k ++ maskBytes k p | none => p) := by
  cases key <;> simp only [Spec.Ws.encodeFrame, lenField, spec_be_eq, spec_xor_eq, List.append_assoc]

theorem sendData_eq (data : List Nat) : sendData data = [129] ++ lenField 0 data.length ++ data := by
  -- `SendData` tests for the longest encoding first, the RFC for the shortest
  simp only [sendData, lenField, textMessage, finalBit]
  split
  · simp [show ¬ data.length ≤ 125 by omega, show ¬ data.length ≤ 65535 by omega]
  split
  · simp [show ¬ data.length ≤ 125 by omega, show data.length ≤ 65535 by omega]
  · simp [show data.length ≤ 125 by omega]

theorem readData_frame (mask : Bool) (n : Nat) (s : List Nat) (h : n < 2 ^ 63) :
    readData ([129] ++ lenField (if mask then 128 else 0) n ++ s) = readPayload mask n s := by
  -- the second byte `m + c` gives back the length code `c` and the mask bit
  have hm : ∀ c, c < 128 → (((if mask then 128 else 0) + c) % 128 = c ∧
      (((if mask then 128 else 0) + c) / 128 % 2 = 1 ↔ mask = true)) := by
    intro c hc; cases mask <;> simp <;> omega
  generalize (if mask = true then 128 else 0) = m at hm ⊢
  unfold lenField
  split
  · simp [readData, readn, closeMessage, textMessage, hm n (by omega), show n ≠ 126 by omega, show n ≠ 127 by omega]
  split
  · simp [readData, readn, closeMessage, textMessage, hm 126, beBytes_length, beVal_beBytes 2 n (by omega)]
  · simp [readData, readn, closeMessage, textMessage, hm 127, beBytes_length, beVal_beBytes 8 n (by omega),
      show ¬ 2 ^ 63 ≤ n by omega]

theorem b64char_ne (v : Nat) : Spec.Ws.b64char v ≠ 13 := by
  unfold Spec.Ws.b64char; (repeat' split) <;> omega

theorem base64_clean : ∀ (fuel : Nat) (l : List Nat), 13 ∉ Spec.Ws.base64 fuel l
  | 0, _ => by simp [Spec.Ws.base64]
  | fuel + 1, l => by
    have ih := base64_clean fuel
    unfold Spec.Ws.base64
    split <;> simp [(b64char_ne _).symm, ih]

theorem sha1_length (msg : List Nat) : (Spec.Ws.sha1 msg).length = 20 := by
  unfold Spec.Ws.sha1
  simp [Spec.Ws.be]

/-- the digest has 20 bytes, so its base64 text is not empty, and no base64 character is CR -/
theorem acceptKey_okVal (key : List Nat) : okVal (Spec.Ws.acceptKey key) := by
  refine ⟨?_, by simpa [index, crlf] using index_skip 13 [10] [] (Spec.Ws.acceptKey key) (base64_clean _ _)⟩
  have h := sha1_length (key ++ Spec.Ws.guid)
  unfold Spec.Ws.acceptKey
  generalize Spec.Ws.sha1 (key ++ Spec.Ws.guid) = d at h ⊢
  match d, h with
  | a :: b :: c :: rest, _ => simp [Spec.Ws.base64]

end ws
end Props.C20
