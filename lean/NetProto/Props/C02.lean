import NetProto.Props.TcpLemmas
import NetProto.Props.TcpShape
/-! # C02 — transfers complete and close in order; no connection stalls silently

Model: `Model/Tcp.lean`, tied to the real stack by the trace correspondence of the TCP world.  The model is timing-free:
*that* the timer fires while armed is the runtime's part (`time.AfterFunc`); what it is armed for and what it sends is
the model's.
Liveness half, proved: in every reachable state anything outstanding implies an armed timer
(`outstanding_implies_timer`), and an expiring timer retransmits the first unacknowledged segment or the FIN while the
peer's window is open (`timeout_retransmits_first_unacked`).  NOT true of the code, a known finding with a checked
witness: data queued behind a closed window with nothing in flight is never probed (`closed_window_stall_witness`).
Handshake retransmission (SYN / SYN-ACK timers) is outside the model. -/
namespace Props.C02
open Model.Tcp Props.TcpFrame Props.TcpLemmas Props.TcpReach Props.TcpShape

/-- data or a FIN outstanding ⇒ the retransmission timer is running -/
def TimerInv (e : Ep) : Prop := e.snd.sndUna ≠ e.snd.sndNxt → e.snd.timerEnabled = true

theorem sendData_timer (e : Ep) : TimerInv (sendData e).1 := by
  unfold sendData TimerInv
  simp only
  split
  · intro _; rfl
  · rename_i h
    intro hne
    simp only [Bool.and_eq_true, Bool.not_eq_eq_eq_not, Bool.not_true, bne_iff_ne, ne_eq, not_and, Decidable.not_not] at h
    cases ht : (sendDataLoop (sendFuel e.snd + 1) e e.snd.writeNext []).1.snd.timerEnabled
    · exact absurd (h ht) hne
    · rfl

theorem timerInv_of_sndSame {e e' : Ep} (s : SndSame e e') (h : TimerInv e) : TimerInv e' := by
  obtain ⟨m, hm⟩ := s.snd
  unfold TimerInv at *; rw [hm]; exact h

/-- every leaf either leaves the sender alone or ends with `sendData` -/
theorem timer_leaves : SegLeaves (fun _ => True) (fun e r => TimerInv e → TimerInv r.1) where
  toSteps := Steps.inv TimerInv
  send := fun e _ => sendData_timer e
  ack := fun e => timerInv_of_sndSame (sendAck_sndSame e)
  close := fun e => timerInv_of_sndSame (closeIfDone_sndSame e)
  fin := fun _ _ _ h => h
  shut := fun _ h => h
  rto := fun _ _ _ _ => sendData_timer _
  rcv := fun e s _ => timerInv_of_sndSame (rcvHandleSegment_rcvOnly e s).snd
  snd := fun _ _ _ _ _ _ => sendData_timer _
  reset := fun _ h => h

theorem timer_inv : EpInv TimerInv :=
  .ofQ (timer_leaves.epInvQ (write := fun _ _ _ _ _ _ h => h) (read := fun _ _ _ _ h => h) (fresh := by intros; intro h; exact absurd rfl h)
    (dflt := fun h => absurd rfl h) (failed := fun _ h => absurd rfl h))

/-- **C02**: in every state the stack can reach, a connection with data or a FIN outstanding has its retransmission
timer running -/
theorem outstanding_implies_timer (c : Cfg) (ops : List Op) : StAll TimerInv (run c ops).1 :=
  run_all timer_inv c ops

/-- the first iteration after a timeout: with the gate open, a head entry that was sent before goes out again -/
theorem sendStep_head (x : Ep) (hd : WSeg) (tl : List WSeg) (hwl : x.snd.writeList = hd :: tl) (hsent : hd.flags ≠ 0)
    (hgate : x.snd.outstanding < (x.snd.cwnd : Int)) (hmp : 0 < x.snd.maxPayload)
    (hwin : hd.data ≠ [] → lt hd.seq (sndEnd x.snd) = true) :
    ∃ e' o, sendStep x 0 = .sent e' o ∧ o.seq = hd.seq ∧
      (hd.data = [] → o.data = [] ∧ o.flags = fAck ||| fFin) ∧
      (hd.data ≠ [] → o.data ≠ [] ∧ ∃ k, o.data = hd.data.take k) := by
  have hassign : hd.assign x.snd.sndNxt = hd := by
    unfold WSeg.assign
    rw [if_neg (by simpa using hsent)]
  have hg : (!decide (x.snd.outstanding < (x.snd.cwnd : Int))) = false := by simp [hgate]
  unfold sendStep
  rw [hwl]
  simp only [List.getElem?_cons_zero, hg, Bool.false_eq_true, ↓reduceIte, hassign]
  by_cases hz : hd.data = []
  · have hl : (hd.data.length == 0) = true := by simp [hz]
    rw [if_pos hl]
    exact ⟨_, _, rfl, (emitAt_out _ _ _).2.1,
      fun _ => ⟨by rw [(emitAt_out _ _ _).1]; exact hz, (emitAt_out _ _ _).2.2⟩, fun h => absurd hz h⟩
  · have hlt := hwin hz
    have hl : ¬ (hd.data.length == 0) = true := by simpa using hz
    have hnl : ¬ (!lt hd.seq (sndEnd x.snd)) = true := by simp [hlt]
    rw [if_neg hl, if_neg hnl]
    refine ⟨_, _, rfl, ?_, fun h => absurd h hz, fun _ => ?_⟩
    · rw [(emitAt_out _ _ _).2.1, splitAt_snd]
    · rw [(emitAt_out _ _ _).1, splitAt_snd]
      refine ⟨fun hnil => ?_, _, rfl⟩
      -- the window is open (`lt`) and the MSS positive, so at least one byte is taken
      have hlen := congrArg List.length hnil
      have hpos : 0 < hd.data.length := List.length_pos_iff.mpr hz
      rw [lt_iff] at hlt
      simp only [List.length_take, List.length_nil] at hlen
      omega

/-- **C02**: when the retransmission timer fires, the earliest unacknowledged segment goes out again: a non-empty prefix
of its data if the peer's window is open, or the FIN.  That the head entry has been sent (`hsent`) and lies inside the
window (`hwin`) are hypotheses: nothing in this file ties them to a reachable state. -/
theorem timeout_retransmits_first_unacked (e : Ep) (hd : WSeg) (tl : List WSeg)
    (hdone : e.done = false) (ht : e.snd.timerEnabled = true) (hwl : e.snd.writeList = hd :: tl) (hsent : hd.flags ≠ 0)
    (hmp : 0 < e.snd.maxPayload) (hwin : hd.data ≠ [] → lt hd.seq (sndEnd e.snd) = true) :
    ∃ o rest, (timerEvent e).2 = o :: rest ∧ o.seq = hd.seq ∧
      (hd.data = [] → o.data = [] ∧ o.flags = fAck ||| fFin) ∧
      (hd.data ≠ [] → o.data ≠ [] ∧ ∃ k, o.data = hd.data.take k) := by
  -- after `rtoState` the gate is open (`outstanding = 0 < 1 = cwnd`), the write pointer at the head
  obtain ⟨_, _, _, _, hr⟩ := rtoState_same e.snd
  generalize hx : ({ e with snd := rtoState e.snd } : Ep) = x
  have hxs : x.snd = rtoState e.snd := by rw [← hx]
  rw [hr] at hxs
  obtain ⟨e', o, hs, h1, h2, h3⟩ := sendStep_head x hd tl (by rw [hxs]; exact hwl) hsent (by rw [hxs]; show (0 : Int) < ((1 : Nat) : Int); decide)
    (by rw [hxs]; exact hmp) (by rw [hxs]; exact hwin)
  have hte : timerEvent e = sendData x := by
    rcases timerEvent_eq e with ⟨h | h, _⟩ | ⟨_, _, h⟩
    · rw [hdone] at h; cases h
    · rw [ht] at h; cases h
    · rw [h, hx]
  have hwn : x.snd.writeNext = 0 := by rw [hxs]
  refine ⟨o, (sendDataLoop (sendFuel x.snd) e' (0 + 1) []).2, ?_, h1, h2, h3⟩
  rw [hte]
  unfold sendData
  simp only
  rw [hwn, sendDataLoop, hs]
  simp only
  rw [sendDataLoop_out]
  rfl

/-- **C02**: `Shutdown(write)` queues the FIN as the last write-list entry ... -/
theorem fin_queued_last (e : Ep) : (queueFin e).snd.writeList = e.snd.writeList ++ [{ data := [], gOff := e.snd.gW.length }] ∧ (queueFin e).sndClosed = true ∧
    (queueFin e).snd.sndNxtList = addS e.snd.sndNxtList 1 := ⟨rfl, rfl, rfl⟩

/-- ... and nothing can be written behind it -/
theorem no_write_after_shutdown (e : Ep) (d : List Nat) (hs : e.state = .connected) (hc : e.sndClosed = true) (hd : d ≠ []) :
    appWrite e d = (e, .error "endpoint-is-closed-for-send", []) := by
  unfold appWrite
  have : (d.length == 0) = false := by simpa using hd
  simp [hs, hc, this]

/-- **C02**: once the peer's FIN has been consumed nothing is delivered any more -/
theorem closed_receiver_delivers_nothing (e : Ep) (seg : InSeg) (hc : e.rcv.closed = true) :
    rcvHandleSegment e seg = (e, []) := by
  unfold rcvHandleSegment; simp [hc]

theorem fin_consumed (e : Ep) : (consumeFin e).1.rcv.closed = true ∧ (consumeFin e).1.rcvClosed = true ∧
    (consumeFin e).1.rcv.rcvNxt = addS e.rcv.rcvNxt 1 ∧ (consumeFin e).2.ack = addS e.rcv.rcvNxt 1 ∧
    (consumeFin e).1.rcvList = e.rcvList := by
  unfold consumeFin
  have f := sendAck_rcvSame { e with rcv := { e.rcv with rcvNxt := addS e.rcv.rcvNxt 1 } }
  exact ⟨rfl, rfl, f.2.1, (sendSegment_out { e with rcv := { e.rcv with rcvNxt := addS e.rcv.rcvNxt 1 } } [] fAck e.snd.sndNxt).2.2.2, f.1⟩

/-- **C02**: end-of-stream is reported only when every delivered byte has been read -/
theorem eof_only_after_all_data (e : Ep) (h : (appRead e).2.1 = .error "endpoint-is-closed-for-receive") :
    e.rcvBufUsed = 0 := by
  -- with bytes buffered `Read` hands over a view or would block
  refine Decidable.byContradiction fun h0 => ?_
  have g : (e.rcvBufUsed == 0) = false := by simpa using h0
  unfold appRead at h
  simp only [g, Bool.and_false, Bool.false_eq_true, ↓reduceIte] at h
  split at h
  · simp at h
  · split at h
    · split at h <;> cases h
    · cases h

/-- a connected endpoint closes exactly when both directions are closed and everything queued is acknowledged
(`sndUna = sndNxtList`) -/
theorem closed_iff (e : Ep) (hs : e.state = .connected) :
    (closeIfDone e).state = .closed ↔ (e.rcv.closed = true ∧ e.snd.closed = true ∧ e.snd.sndUna = e.snd.sndNxtList) := by
  unfold closeIfDone
  split
  · rename_i h; simp at h; simp [h]
  · rename_i h
    simp at h
    simp only [hs]
    constructor
    · intro hh; cases hh
    · intro hh; exact absurd hh.2.2 (h hh.1 hh.2.1)

/-- the application's data is queued, nothing is in flight, the retransmission timer is off, and a timer event sends
nothing and changes nothing -/
def stalled (e : Ep) : Bool :=
  e.state == .connected && e.done == false && e.snd.writeList.length == 1 && e.snd.sndUna == e.snd.sndNxt &&
  !e.snd.timerEnabled && (timerEvent e).2.isEmpty && (timerEvent e).1.snd.writeList == e.snd.writeList &&
  !(timerEvent e).1.snd.timerEnabled

/-- (c02.closed-window-never-probed, F02) a reachable stalled state: only a window update from the peer can restart the
connection; if that one packet is lost it is silent for ever.  History: active open, SYN-ACK advertising window 0,
then `Write` of three bytes. -/
theorem closed_window_stall_witness :
    (((run {} [.connect 0 1000, .seg 40000 8080 ⟨fSyn ||| fAck, 5000, 1001, 0, [], []⟩ 0, .write 0 [1, 2, 3]]).1.eps[0]?).map
      (fun x => stalled x.2)) = some true := by
  decide

/-- non-vacuity of `timeout_retransmits_first_unacked` -/
example :
    let s : Snd := { sndUna := 100, sndNxt := 103, sndNxtList := 103, sndWnd := 1000, maxPayload := 100, maxSentAck := 1,
                     outstanding := 1, timerEnabled := true, writeList := [{ seq := 100, flags := 24, data := [1, 2, 3] }], writeNext := 1 }
    let e : Ep := { snd := s, rcv := { rcvNxt := 1, rcvAcc := 1000, pendingBufSize := 100 }, rcvBufSize := 1000, sndBufSize := 1000 }
    ((timerEvent e).2.map (fun o => (o.seq, o.data))) = [(100, [1, 2, 3])] := by decide

end Props.C02
