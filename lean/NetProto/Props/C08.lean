import NetProto.Model.Frag
/-!
# C08 — IPv4 reassembly returns exactly the original datagram

About ONE reassembler (`Reasm`) fed the fragments of one datagram `P` in any order (`feed`, calling `Reasm.process`).
Two notions carry the proof: the hole list read pointwise (`live`, kept equal to "not yet covered" by `HInv`) and the
heap as an offset-sorted set of slices of `P` covering what was received (`RInv`).  `C` throughout is a ghost: the ranges
`(first, last)` received so far, newest first.
Left out: the table of reassemblers (`Frg.process`) is reached only by `result_local` and `timeout_fresh`; `Frg.new`,
`Frg.release`, `evict` and the `size` accounting have no lemma beyond `lookup_release_self`, so nothing is said about a history of `Frg.process`
calls, where an evicted or expired reassembler loses its fragments.
-/
namespace C08
open Model.Frag

def live (hs : List Hole) (x : Nat) : Prop :=
  ∃ h ∈ hs, h.deleted = false ∧ h.first ≤ x ∧ x ≤ h.last

theorem hit_iff (h : Hole) (f l : Nat) :
    hit h f l = true ↔ h.deleted = false ∧ f ≤ h.last ∧ h.first ≤ l := by
  unfold hit
  cases hd : h.deleted <;> simp <;> omega

theorem mem_pieces (h : Hole) (f l : Nat) (more : Bool) (p : Hole) :
    p ∈ pieces h f l more ↔
      (f > h.first ∧ p = ⟨h.first, f - 1, false⟩) ∨ (l < h.last ∧ more = true ∧ p = ⟨l + 1, h.last, false⟩) := by
  simp [pieces, and_assoc]

/-- `updateHoles` read hole by hole -/
def splitHole (h : Hole) (f l : Nat) (more : Bool) : List Hole :=
  if hit h f l then { h with deleted := true } :: pieces h f l more else [h]

theorem mem_updateHoles (hs : List Hole) (f l : Nat) (more : Bool) (p : Hole) :
    p ∈ updateHoles hs f l more ↔ ∃ h ∈ hs, p ∈ splitHole h f l more := by
  simp only [updateHoles, splitHole, List.mem_append, List.mem_map, List.mem_flatMap, ← exists_or, ← and_or_left]
  refine exists_congr fun h => and_congr_right fun _ => ?_
  by_cases hh : hit h f l <;> simp [hh, eq_comm]

/-- the last disjunct: a hole wholly behind the fragment is kept even when no more fragments follow -/
theorem live_splitHole (h : Hole) (f l : Nat) (more : Bool) (x : Nat) :
    live (splitHole h f l more) x ↔
      h.deleted = false ∧ h.first ≤ x ∧ x ≤ h.last ∧ (x < f ∨ l < x ∧ (more = true ∨ l < h.first)) := by
  unfold live splitHole
  by_cases hh : hit h f l
  · have := (hit_iff h f l).mp hh
    simp only [hh, if_true, List.mem_cons, mem_pieces, or_and_right, exists_or, exists_eq_left, and_assoc, this.1,
      true_and]
    cases more <;> simp <;> omega
  · have := mt (hit_iff h f l).mpr hh
    simp only [hh, Bool.false_eq_true, if_false, List.mem_singleton, exists_eq_left]
    cases hd : h.deleted
    · simp only [hd, true_and] at this
      cases more <;> simp <;> omega
    · simp

theorem splitHole_shape (h : Hole) (f l : Nat) (more : Bool) (p : Hole) (hp : p ∈ splitHole h f l more)
    (hd : p.deleted = false) :
    h.deleted = false ∧ (h.first ≤ h.last → p.first ≤ p.last) ∧ p.last ≤ h.last ∧
      (p.first = h.first ∨ p.first = l + 1 ∧ more = true) := by
  unfold splitHole at hp
  by_cases hh : hit h f l
  · have := (hit_iff h f l).mp hh
    simp only [hh, if_true, List.mem_cons, mem_pieces] at hp
    rcases hp with rfl | ⟨_, rfl⟩ | ⟨_, hm, rfl⟩
    · cases hd
    · exact ⟨this.1, by simp only; omega, by simp only; omega, Or.inl rfl⟩
    · exact ⟨this.1, by simp only; omega, Nat.le_refl _, Or.inr ⟨rfl, hm⟩⟩
  · simp only [hh, Bool.false_eq_true, if_false, List.mem_singleton] at hp
    subst hp
    exact ⟨hd, id, Nat.le_refl _, Or.inl rfl⟩

theorem live_updateHoles (hs : List Hole) (f l : Nat) (more : Bool) (x : Nat) :
    live (updateHoles hs f l more) x ↔ ∃ h ∈ hs, live (splitHole h f l more) x := by
  unfold live
  simp only [mem_updateHoles]
  exact ⟨fun ⟨p, ⟨h, hh, hp⟩, r⟩ => ⟨h, hh, p, hp, r⟩, fun ⟨h, hh, p, hp, r⟩ => ⟨p, ⟨h, hh, hp⟩, r⟩⟩

def delCount (hs : List Hole) : Nat := (hs.filter (·.deleted)).length

/-- each hole the fragment touches was live and is now marked; the pieces it leaves are live -/
theorem delCount_updateHoles (hs : List Hole) (f l : Nat) (more : Bool) :
    delCount (updateHoles hs f l more) = delCount hs + hitCount hs f l := by
  simp only [delCount, hitCount, updateHoles, ← List.countP_eq_length_filter, List.countP_append]
  induction hs with
  | nil => rfl
  | cons h t ih =>
    simp only [List.map_cons, List.flatMap_cons, List.countP_cons, List.countP_append]
    by_cases hh : hit h f l = true
    · have hd := ((hit_iff h f l).mp hh).1
      have hp : (pieces h f l more).countP (·.deleted) = 0 := List.countP_eq_zero.mpr fun p hp => by
        rcases (mem_pieces ..).mp hp with ⟨_, rfl⟩ | ⟨_, _, rfl⟩ <;> simp
      simp only [hh, hd, hp, if_true, Bool.false_eq_true, if_false]
      omega
    · simp only [hh, Bool.false_eq_true, if_false, List.countP_nil]
      omega

theorem delCount_lt_iff (hs : List Hole) : delCount hs < hs.length ↔ ∃ h ∈ hs, h.deleted = false := by
  simp [delCount, ← List.countP_eq_length_filter, Nat.lt_iff_le_and_ne, List.countP_le_length, List.countP_eq_length]

/-- `(f, l, more)` is a fragment of a datagram of `n` bytes (8-byte alignment is not needed) -/
structure IsFrag (n f l : Nat) (more : Bool) : Prop where
  le : f ≤ l
  lt : l < n
  more_iff : more = true ↔ l + 1 < n

def cov (C : List (Nat × Nat)) (x : Nat) : Prop := ∃ c ∈ C, c.1 ≤ x ∧ x ≤ c.2
def lastSeen (n : Nat) (C : List (Nat × Nat)) : Prop := ∃ c ∈ C, c.2 + 1 = n
def ValidC (n : Nat) (C : List (Nat × Nat)) : Prop := ∀ c ∈ C, c.1 ≤ c.2 ∧ c.2 < n

structure HInv (n : Nat) (hs : List Hole) (C : List (Nat × Nat)) : Prop where
  /-- live holes = bytes not yet covered, up to 65535 until the last fragment is known, then up to n-1 -/
  sem : ∀ x, live hs x ↔ (¬ cov C x ∧ x ≤ 65535 ∧ (lastSeen n C → x < n))
  shape : ∀ h ∈ hs, h.deleted = false → h.first < n ∧ h.first ≤ h.last ∧ h.last ≤ 65535

theorem hinv_init (n : Nat) (hn : 1 ≤ n) : HInv n [⟨0, 65535, false⟩] [] := by
  constructor
  · intro x
    simp [live, cov, lastSeen]
  · intro h hh _
    simp at hh
    subst hh
    simp; omega

theorem cov_cons (C : List (Nat × Nat)) (f l x : Nat) : cov ((f, l) :: C) x ↔ (f ≤ x ∧ x ≤ l) ∨ cov C x := by
  simp [cov]

theorem lastSeen_cons (n : Nat) (C : List (Nat × Nat)) (f l : Nat) :
    lastSeen n ((f, l) :: C) ↔ l + 1 = n ∨ lastSeen n C := by
  simp [lastSeen]

theorem hinv_step (n : Nat) (hs : List Hole) (C : List (Nat × Nat)) (f l : Nat) (more : Bool)
    (hI : HInv n hs C) (hf : IsFrag n f l more) :
    HInv n (updateHoles hs f l more) ((f, l) :: C) := by
  obtain ⟨hle, hlt, hmore⟩ := hf
  constructor
  · intro x
    rw [live_updateHoles, cov_cons, lastSeen_cons]
    simp only [live_splitHole]
    constructor
    · rintro ⟨h, hh, hd, h1, h2, hc⟩
      obtain ⟨s1, s2, s3⟩ := (hI.sem x).mp ⟨h, hh, hd, h1, h2⟩
      have sh := (hI.shape h hh hd).1
      refine ⟨fun hcv => hcv.elim (fun ab => by omega) s1, s2, fun hl => hl.elim (fun e => ?_) s3⟩
      -- the fragment is the last one: `more` is false, and no hole begins behind it; `HInv.shape` carries
      -- `h.first < n` for this step alone
      rcases hc with hc | ⟨_, hm | hc⟩
      · omega
      · have := hmore.mp hm; omega
      · omega
    · rintro ⟨s1, s2, s3⟩
      obtain ⟨h, hh, hd, h1, h2⟩ :=
        (hI.sem x).mpr ⟨fun hcv => s1 (Or.inr hcv), s2, fun hls => s3 (Or.inr hls)⟩
      refine ⟨h, hh, hd, h1, h2, ?_⟩
      by_cases hxf : x < f
      · exact Or.inl hxf
      · have hxl : l < x := Nat.lt_of_not_le fun hxl => s1 (Or.inl ⟨by omega, hxl⟩)
        -- the fragment is not the last one: otherwise `x` would lie beyond the datagram
        exact Or.inr ⟨hxl, Or.inl (hmore.mpr (Nat.lt_of_le_of_ne hlt fun e => by have := s3 (Or.inl e); omega))⟩
  · intro p hp hpd
    obtain ⟨h, hh, hp⟩ := (mem_updateHoles ..).mp hp
    obtain ⟨hd, p1, p2, p3⟩ := splitHole_shape h f l more p hp hpd
    obtain ⟨sh1, sh2, sh3⟩ := hI.shape h hh hd
    refine ⟨?_, p1 sh2, by omega⟩
    rcases p3 with e | ⟨e, hm⟩
    · omega
    · have := hmore.mp hm; omega

theorem closed_iff (n : Nat) (hs : List Hole) (C : List (Nat × Nat)) (hI : HInv n hs C) (hV : ValidC n C)
    (hn1 : 1 ≤ n) (hn : n ≤ 65536) :
    (¬ ∃ h ∈ hs, h.deleted = false) ↔ (lastSeen n C ∧ ∀ x, x < n → cov C x) := by
  constructor
  · intro hno
    have hnl : ∀ x, ¬ live hs x := fun x ⟨h, hh, hd, _⟩ => hno ⟨h, hh, hd⟩
    have hls : lastSeen n C := by
      by_cases hls : lastSeen n C
      · exact hls
      · exfalso
        -- without a last fragment byte `n-1` is still a hole: a valid fragment covering it would end there
        apply hnl (n - 1)
        rw [hI.sem]
        refine ⟨?_, by omega, fun h => absurd h hls⟩
        rintro ⟨c, hc, c1, c2⟩
        have := hV c hc
        exact hls ⟨c, hc, by omega⟩
    exact ⟨hls, fun x hx => Classical.byContradiction fun hc => hnl x ((hI.sem x).mpr ⟨hc, by omega, fun _ => hx⟩)⟩
  · rintro ⟨hls, hall⟩ ⟨h, hh, hd⟩
    obtain ⟨sh1, sh2, _⟩ := hI.shape h hh hd
    exact ((hI.sem _).mp ⟨h, hh, hd, Nat.le_refl _, sh2⟩).1 (hall _ sh1)

def SliceOf (P : List Nat) (g : Frag) : Prop :=
  g.data = (P.drop g.offset).take g.data.length ∧ g.offset + g.data.length ≤ P.length ∧ 0 < g.data.length

def covS (gs : List Frag) (x : Nat) : Prop := ∃ g ∈ gs, g.offset ≤ x ∧ x < g.offset + g.data.length
def SortedOff (gs : List Frag) : Prop := gs.Pairwise fun a b => a.offset ≤ b.offset

theorem take_append_slice (P : List Nat) (a o k : Nat) (ho : o ≤ a) :
    P.take a ++ ((P.drop o).take k).drop (a - o) = P.take (max a (o + k)) := by
  rw [List.drop_take, List.drop_drop, show o + (a - o) = a by omega,
    show max a (o + k) = a + (k - (a - o)) by omega, List.take_add]

theorem reassembleLoop_cons (c : Frag) (t : List Frag) (acc : List Nat) (h : c.offset ≤ acc.length) :
    reassembleLoop (c :: t) acc = reassembleLoop t (acc ++ c.data.drop (acc.length - c.offset)) := by
  rw [reassembleLoop]
  by_cases h1 : c.offset < acc.length
  · rw [if_pos h1]
  · rw [if_neg h1, if_neg (by omega), show acc.length - c.offset = 0 by omega, List.drop_zero]

theorem loop_exact_take (P : List Nat) (gs : List Frag) (a : Nat) (ha : a ≤ P.length)
    (hsl : ∀ g ∈ gs, SliceOf P g) (hso : SortedOff gs)
    (hcov : ∀ x, a ≤ x → x < P.length → covS gs x) :
    reassembleLoop gs (P.take a) = .ok P := by
  induction gs generalizing a with
  | nil =>
    obtain rfl : a = P.length := Nat.le_antisymm ha (Nat.le_of_not_lt fun h => by
      obtain ⟨g, hg, _⟩ := hcov a (Nat.le_refl _) h
      cases hg)
    simp [reassembleLoop]
  | cons c t ih =>
    obtain ⟨sd, sb, sp⟩ := hsl c (by simp)
    obtain ⟨hmin, hso'⟩ := List.pairwise_cons.mp hso
    -- the byte at `a` is covered by a fragment that starts no earlier than `c`
    have hoff : c.offset ≤ a := by
      by_cases h : a < P.length
      · obtain ⟨g, hg, g1, _⟩ := hcov a (Nat.le_refl _) h
        rcases List.mem_cons.mp hg with rfl | hg
        · exact g1
        · have := hmin g hg; omega
      · omega
    have hla : (P.take a).length = a := by rw [List.length_take]; omega
    rw [reassembleLoop_cons c t _ (by rw [hla]; exact hoff), hla, sd, take_append_slice P a _ _ hoff]
    apply ih _ (by omega) (fun g hg => hsl g (by simp [hg])) hso'
    intro x hx1 hx2
    obtain ⟨g, hg, g1, g2⟩ := hcov x (by omega) hx2
    rcases List.mem_cons.mp hg with rfl | hg
    · omega
    · exact ⟨g, hg, g1, g2⟩

theorem reassemble_of_loop (gs : List Frag) (P : List Nat) (hP : P ≠ []) (h : reassembleLoop gs [] = .ok P) :
    reassemble gs = .ok P := by
  cases gs with
  | nil => simp [reassembleLoop] at h; exact absurd h hP
  | cons c t =>
    unfold reassembleLoop at h
    unfold reassemble
    by_cases h0 : c.offset = 0
    · simpa [h0] using h
    · simp [show c.offset > 0 by omega] at h

/-- **`reassemble` returns exactly `P`** for every offset-sorted list of slices of `P` that covers it, duplicates and
    overlaps included. -/
theorem reassemble_exact (P : List Nat) (gs : List Frag) (hP : 0 < P.length)
    (hsl : ∀ g ∈ gs, SliceOf P g) (hso : SortedOff gs) (hcov : ∀ x, x < P.length → covS gs x) :
    reassemble gs = .ok P :=
  reassemble_of_loop gs P (List.ne_nil_of_length_pos hP)
    (loop_exact_take P gs 0 (Nat.zero_le _) hsl hso fun x _ hx => hcov x hx)

theorem mem_insertFrag (x g : Frag) (gs : List Frag) : g ∈ insertFrag x gs ↔ g = x ∨ g ∈ gs := by
  induction gs with
  | nil => simp [insertFrag]
  | cons y t ih =>
    unfold insertFrag
    split <;> simp [ih, or_left_comm]

theorem sorted_insertFrag (x : Frag) (gs : List Frag) (h : SortedOff gs) : SortedOff (insertFrag x gs) := by
  induction gs with
  | nil => simp [insertFrag, SortedOff]
  | cons y t ih =>
    obtain ⟨hy, ht⟩ := List.pairwise_cons.mp h
    unfold insertFrag
    split
    · refine List.pairwise_cons.mpr ⟨fun g hg => ?_, h⟩
      rcases List.mem_cons.mp hg with rfl | hg
      · omega
      · have := hy g hg; omega
    · refine List.pairwise_cons.mpr ⟨fun g hg => ?_, ih ht⟩
      rcases (mem_insertFrag ..).mp hg with rfl | hg
      · omega
      · exact hy g hg

structure RInv (P : List Nat) (r : Reasm) (C : List (Nat × Nat)) : Prop where
  notDone : r.done = false
  hinv : HInv P.length r.holes C
  cnt : r.deleted = delCount r.holes
  valid : ValidC P.length C
  slices : ∀ g ∈ r.heap, SliceOf P g
  sorted : SortedOff r.heap
  stored : ∀ x, cov C x → covS r.heap x

def Complete (n : Nat) (C : List (Nat × Nat)) : Prop := lastSeen n C ∧ ∀ x, x < n → cov C x

theorem rinv_init (P : List Nat) (hP : 1 ≤ P.length) : RInv P {} [] := by
  refine ⟨rfl, hinv_init _ hP, by simp [delCount], ?_, ?_, ?_, ?_⟩
  · intro c hc; simp at hc
  · intro g hg; simp at hg
  · simp [SortedOff]
  · intro x hx; obtain ⟨c, hc, _⟩ := hx; simp at hc

/-- one fragment: still incomplete and nothing delivered, or now complete and exactly `P` delivered; never an error -/
theorem process_spec (P : List Nat) (r : Reasm) (C : List (Nat × Nat)) (f l : Nat) (more : Bool) (data : List Nat)
    (hR : RInv P r C) (hf : IsFrag P.length f l more) (hd : data = (P.drop f).take (l + 1 - f))
    (hn1 : 1 ≤ P.length) (hn : P.length ≤ 65536) :
    ((r.process f l more data).2.1 = .notReady ∧ RInv P (r.process f l more data).1 ((f, l) :: C) ∧
        ¬ Complete P.length ((f, l) :: C)) ∨
    ((r.process f l more data).2.1 = .ready P ∧ Complete P.length ((f, l) :: C)) := by
  obtain ⟨hnd, hI, hcnt, hV, hsl, hso, hst⟩ := hR
  have hI' := hinv_step P.length r.holes C f l more hI hf
  have hV' : ValidC P.length ((f, l) :: C) := List.forall_mem_cons.mpr ⟨⟨hf.le, hf.lt⟩, hV⟩
  obtain ⟨hle, hlt, _⟩ := hf
  have hdl : data.length = l + 1 - f := by
    rw [hd, List.length_take, List.length_drop]; omega
  have hnew : SliceOf P ⟨f, data⟩ :=
    ⟨by simp only; rw [hdl]; exact hd, by simp only; rw [hdl]; omega, by simp only; rw [hdl]; omega⟩
  obtain ⟨hsl', hso', hst'⟩ : let heap' := if hitCount r.holes f l > 0 then insertFrag ⟨f, data⟩ r.heap else r.heap
      (∀ g ∈ heap', SliceOf P g) ∧ SortedOff heap' ∧ ∀ x, cov ((f, l) :: C) x → covS heap' x := by
    by_cases hu : hitCount r.holes f l > 0 <;> simp only [hu, if_true, if_false]
    · refine ⟨fun g hg => ((mem_insertFrag ..).mp hg).elim (· ▸ hnew) (hsl g), sorted_insertFrag _ _ hso, fun x hx => ?_⟩
      rcases (cov_cons C f l x).mp hx with ⟨x1, x2⟩ | hx
      · exact ⟨⟨f, data⟩, (mem_insertFrag ..).mpr (Or.inl rfl), x1, by simp only; rw [hdl]; omega⟩
      · obtain ⟨g, hg, g12⟩ := hst x hx
        exact ⟨g, (mem_insertFrag ..).mpr (Or.inr hg), g12⟩
    · refine ⟨hsl, hso, fun x hx => hst x (((cov_cons C f l x).mp hx).elim (fun ⟨x1, x2⟩ => ?_) id)⟩
      -- a fragment that touches no hole brings no new byte
      have hz : ∀ h ∈ r.holes, ¬ hit h f l = true :=
        List.filter_eq_nil_iff.mp (List.length_eq_zero_iff.mp (by unfold hitCount at hu; omega))
      have hnl : ¬ live r.holes x := fun ⟨h, hh, hdel, h1, h2⟩ =>
        hz h hh ((hit_iff h f l).mpr ⟨hdel, by omega, by omega⟩)
      exact Classical.byContradiction fun hc => hnl ((hI.sem x).mpr ⟨hc, by omega, fun _ => by omega⟩)
  have hcnt' : r.deleted + hitCount r.holes f l = delCount (updateHoles r.holes f l more) := by
    rw [delCount_updateHoles, hcnt]
  have hcl := closed_iff _ _ _ hI' hV' hn1 hn
  -- stored or not, the argument is the same
  unfold Reasm.process
  simp only [hnd, Bool.false_eq_true, if_false]
  by_cases hu : hitCount r.holes f l > 0 <;>
    simp only [hu, if_true, if_false] at hsl' hso' hst' ⊢
  all_goals
    by_cases hclosed : ∃ h ∈ updateHoles r.holes f l more, h.deleted = false
    · have hlt : r.deleted + hitCount r.holes f l < (updateHoles r.holes f l more).length := by
        rw [hcnt']; exact (delCount_lt_iff _).mpr hclosed
      simp only [hlt, if_true]
      exact Or.inl ⟨trivial, ⟨rfl, hI', hcnt', hV', hsl', hso', hst'⟩, fun hc => hcl.mpr hc hclosed⟩
    · have hcomp := hcl.mp hclosed
      have hge : ¬ r.deleted + hitCount r.holes f l < (updateHoles r.holes f l more).length := by
        rw [hcnt']; exact fun h => hclosed ((delCount_lt_iff _).mp h)
      simp only [hge, if_false]
      rw [reassemble_exact P _ (by omega) hsl' hso' fun x hx => hst' x (hcomp.2 x hx)]
      exact Or.inr ⟨rfl, hcomp⟩

abbrev FragIn := Nat × Nat × Bool × List Nat

/-- the driver the theorems are stated on, not part of the Go code: one reassembler is handed the fragments in turn and
    stops at the delivery (`Fragmentation.Process` would start a new one) -/
def feed (r : Reasm) : List FragIn → List PRes
  | [] => []
  | (f, l, m, d) :: t =>
    let out := r.process f l m d
    out.2.1 :: (match out.2.1 with
      | .notReady => feed out.1 t
      | _ => [])

def ValidIn (P : List Nat) (x : FragIn) : Prop :=
  IsFrag P.length x.1 x.2.1 x.2.2.1 ∧ x.2.2.2 = (P.drop x.1).take (x.2.1 + 1 - x.1)

open Classical in
/-- the specification: nothing until the received set is complete, then exactly `P` -/
noncomputable def specFeed (P : List Nat) (C : List (Nat × Nat)) : List FragIn → List PRes
  | [] => []
  | (f, l, _, _) :: t =>
    if Complete P.length ((f, l) :: C) then [.ready P] else .notReady :: specFeed P ((f, l) :: C) t

theorem feed_spec (P : List Nat) (hn1 : 1 ≤ P.length) (hn : P.length ≤ 65536) (frs : List FragIn)
    (r : Reasm) (C : List (Nat × Nat)) (hR : RInv P r C) (hv : ∀ x ∈ frs, ValidIn P x) :
    feed r frs = specFeed P C frs := by
  induction frs generalizing r C with
  | nil => simp [feed, specFeed]
  | cons x t ih =>
    obtain ⟨f, l, m, d⟩ := x
    obtain ⟨hf, hd⟩ := hv (f, l, m, d) (by simp)
    unfold feed specFeed
    rcases process_spec P r C f l m d hR hf hd hn1 hn with ⟨h1, h2, h3⟩ | ⟨h1, h2⟩
    · simp only [h1, h3, if_false]
      rw [ih _ _ h2 (fun y hy => hv y (by simp [hy]))]
    · simp only [h1, h2, if_true]

/-- **C08, reassembly**: for every datagram `P` of 1…65536 bytes and every sequence of well-formed fragments of it the
    reassembler delivers nothing while the received set is incomplete and exactly `P` the moment it is complete. -/
theorem reassembly_correct (P : List Nat) (hn1 : 1 ≤ P.length) (hn : P.length ≤ 65536) (frs : List FragIn)
    (hv : ∀ x ∈ frs, ValidIn P x) :
    feed {} frs = specFeed P [] frs :=
  feed_spec P hn1 hn frs {} [] (rinv_init P hn1) hv

theorem specFeed_mem (P : List Nat) (frs : List FragIn) (C : List (Nat × Nat)) :
    ∀ res ∈ specFeed P C frs, res = .notReady ∨ res = .ready P := by
  induction frs generalizing C with
  | nil => simp [specFeed]
  | cons x t ih =>
    obtain ⟨f, l, m, d⟩ := x
    unfold specFeed
    intro res hres
    split at hres
    · exact Or.inr (List.mem_singleton.mp hres)
    · rcases List.mem_cons.mp hres with rfl | hres
      · exact Or.inl rfl
      · exact ih _ res hres

/-- whatever is delivered is `P`; `PRes.failed`, the branch on which `fragHeap.reassemble` fails, is never taken -/
theorem delivered_is_original (P : List Nat) (hn1 : 1 ≤ P.length) (hn : P.length ≤ 65536) (frs : List FragIn)
    (hv : ∀ x ∈ frs, ValidIn P x) : ∀ res ∈ feed {} frs, res = .notReady ∨ res = .ready P := by
  rw [reassembly_correct P hn1 hn frs hv]
  exact specFeed_mem P frs []

/-- three fragments of a 5-byte datagram, out of order with a duplicate -/
example : feed {} [(3, 4, false, [4, 5]), (0, 1, true, [1, 2]), (0, 1, true, [1, 2]), (2, 2, true, [3])] =
    [.notReady, .notReady, .notReady, .ready [1, 2, 3, 4, 5]] := by decide

theorem lookup_release_self (f : Frg) (id : Nat) : (f.release id).lookup id = none := by
  unfold Frg.release
  cases h : f.lookup id with
  | none => simpa using h
  | some r =>
    simp only [Frg.lookup, Option.map_eq_none_iff, List.find?_eq_none]
    intro x hx
    simp only [List.mem_filter] at hx
    simpa using hx.2

/-- the outcome of `Process` for key `id` is computed from `id`'s own reassembler only -/
theorem result_local (f : Frg) (id fi la : Nat) (mo : Bool) (d : List Nat) :
    (f.process id false fi la mo d).2 = (((f.lookup id).getD {}).process fi la mo d).2.1 := by
  unfold Frg.process
  cases h : f.lookup id <;> simp [h]

/-- a reassembler older than the timeout is discarded: the fragment is processed against a fresh one -/
theorem timeout_fresh (f : Frg) (id fi la : Nat) (mo : Bool) (d : List Nat) :
    (f.process id true fi la mo d).2 = (({} : Reasm).process fi la mo d).2.1 := by
  unfold Frg.process
  simp [lookup_release_self]

end C08
