import NetProto.Model.Sleep
import NetProto.Generated.Shapes
/-! # C19 — Sleeper/Waker never lose or invent a wake-up

Model: `Model/Sleep.lean`, `pkg/sleep/sleep_unsafe.go` with one step per atomic operation (`Waker.Assert`, `Waker.Clear`,
`enqueueAssertedWaker`, `nextWaker`, `Fetch`); any number of asserting goroutines, one fetching goroutine, all wakers
attached.  The functions' skeleton is pinned below; a forced-schedule harness compares the real code with the model step
by step (the two operations inside `commitSleep` run on the system stack: separate model steps it cannot separate).

Proved for every interleaving: `SInv = J ∧ N ∧ Mi ∧ K` (below), and from it the clauses marked **C19**.
`Done` and `AddWaker` on a detached waker: `Props/C19Done.lean`.  `AddWaker` of a waker never attached is not modelled. -/
namespace Props.C19
open Model.Sleep

def expect_sleep_nextWaker : List String :=
  ["if[(==) v0 localList nil]", "then", "for",
   "cond[(&&) verifPoint verifNextLoad (==) atomic LoadPointer & v0 sharedList nil]",
   "call[atomic LoadPointer(& v0 sharedList)]", "if[! v1]", "then", "ret[nil]", "fi",
   "call[atomic StoreUintptr(& v0 waitingG,preparingG)]",
   "if[(&&) verifPoint verifNextRecheck (!=) atomic LoadPointer & v0 sharedList nil]",
   "call[atomic LoadPointer(& v0 sharedList)]", "then", "call[atomic StoreUintptr(& v0 waitingG,0)]", "break",
   "fi", "call[gopark(commitSleep,& v0 waitingG,\"sleeper\",v2,0)]", "rof",
   "call[atomic SwapPointer(& v0 sharedList,nil)]", "call[Waker(atomic SwapPointer & v0 sharedList nil)]",
   "assign[v3]", "for", "cond[(!=) v3 nil]", "assign[v4]", "assign[v3]", "assign[v4 next]", "assign[v0 localList]",
   "rof", "fi", "assign[v5]", "assign[v0 localList]", "ret[v5]"]
def expect_sleep_Fetch : List String :=
  ["for", "call[v0 nextWaker(v1)]", "assign[v4]", "if[(==) v4 nil]", "then", "ret[- 1,false]", "fi",
   "call[usleeper(v0)]", "call[atomic SwapPointer(& v4 s,usleeper v0)]",
   "call[Sleeper(atomic SwapPointer & v4 s usleeper v0)]", "assign[v5]", "if[(==) v5 & assertedSleeper]", "then",
   "ret[v4 id,true]", "fi", "rof"]
def expect_sleep_enqueue : List String :=
  ["for", "call[atomic LoadPointer(& v0 sharedList)]", "call[Waker(atomic LoadPointer & v0 sharedList)]",
   "assign[v2]", "assign[v1 next]", "if[atomic CompareAndSwapPointer & v0 sharedList uwaker v2 uwaker v1]",
   "call[uwaker(v2)]", "call[uwaker(v1)]",
   "call[atomic CompareAndSwapPointer(& v0 sharedList,uwaker v2,uwaker v1)]", "then", "break", "fi", "rof", "for",
   "call[atomic LoadUintptr(& v0 waitingG)]", "assign[v3]", "if[(==) v3 0]", "then", "ret[]", "fi",
   "if[atomic CompareAndSwapUintptr & v0 waitingG v3 0]", "call[atomic CompareAndSwapUintptr(& v0 waitingG,v3,0)]",
   "then", "if[(!=) v3 preparingG]", "then", "call[goready(v3,0)]", "fi", "fi", "rof"]
def expect_sleep_Assert : List String :=
  ["if[(&&) verifPoint verifAssertLoad (==) atomic LoadPointer & v0 s usleeper & assertedSleeper]",
   "call[atomic LoadPointer(& v0 s)]", "call[usleeper(& assertedSleeper)]", "then", "ret[]", "fi",
   "call[usleeper(& assertedSleeper)]", "call[atomic SwapPointer(& v0 s,usleeper & assertedSleeper)]",
   "call[Sleeper(atomic SwapPointer & v0 s usleeper & assertedSleeper)]", "assign[v1]",
   "call[v1 enqueueAssertedWaker(v0)]"]
def expect_sleep_Clear : List String :=
  ["if[(&&) verifPoint verifClearLoad (!=) atomic LoadPointer & v0 s usleeper & assertedSleeper]",
   "call[atomic LoadPointer(& v0 s)]", "call[usleeper(& assertedSleeper)]", "then", "ret[false]", "fi",
   "call[usleeper(& assertedSleeper)]",
   "call[atomic CompareAndSwapPointer(& v0 s,usleeper & assertedSleeper,nil)]",
   "ret[atomic CompareAndSwapPointer & v0 s usleeper & assertedSleeper nil]"]

theorem source_skeleton_pinned :
    Gen.Shapes.sleep_nextWaker = expect_sleep_nextWaker ∧ Gen.Shapes.sleep_Fetch = expect_sleep_Fetch ∧
    Gen.Shapes.sleep_enqueue = expect_sleep_enqueue ∧ Gen.Shapes.sleep_Assert = expect_sleep_Assert ∧
    Gen.Shapes.sleep_Clear = expect_sleep_Clear :=
  ⟨rfl, rfl, rfl, rfl, rfl⟩

/-- the waker is being pushed by this thread (its `Assert` has not completed) -/
def inflight (k : Nat) : APC → Nat
  | .e1 j => if j = k then 1 else 0
  | .e2 j _ => if j = k then 1 else 0
  | _ => 0

def sumOver (g : APC → Nat) (l : List APC) : Nat := (l.map g).foldl (· + ·) 0

theorem sumOver_eq_sum (g : APC → Nat) (l : List APC) : sumOver g l = (l.map g).sum := List.sum_eq_foldl_nat.symm

theorem sumOver_cons (g : APC → Nat) (p : APC) (l : List APC) : sumOver g (p :: l) = g p + sumOver g l := by
  simp only [sumOver_eq_sum, List.map_cons, List.sum_cons]

theorem sumOver_append (g : APC → Nat) (l m : List APC) : sumOver g (l ++ m) = sumOver g l + sumOver g m := by
  simp only [sumOver_eq_sum, List.map_append, List.sum_append_nat]

theorem sumOver_set (g : APC → Nat) (l : List APC) (t : Nat) (old p : APC) (h : l[t]? = some old) :
    sumOver g (l.set t p) + g old = sumOver g l + g p := by
  obtain ⟨hlt, rfl⟩ := List.getElem?_eq_some_iff.mp h
  rw [List.set_eq_take_append_cons_drop, if_pos hlt]
  conv => rhs; rw [← List.take_append_drop t l, List.drop_eq_getElem_cons hlt]
  simp only [sumOver_append, sumOver_cons]
  omega

theorem sumOver_eq_zero (g : APC → Nat) (l : List APC) : sumOver g l = 0 ↔ ∀ p ∈ l, g p = 0 := by
  simp [sumOver_eq_sum, List.sum_eq_zero_iff_forall_eq_nat]

/-- in how many places waker `k` sits: shared stack, local list, a push in flight, the fetcher's hands -/
def loc (s : St) (k : Nat) : Nat :=
  s.shared.count k + s.local_.count k + sumOver (inflight k) s.ts + (if s.f = .f1 k then 1 else 0)

/-- **location invariant**: an idle waker (`w.s = sleeper`) is nowhere, an asserted (or asserted-then-cleared) one in
exactly one place -/
def J (s : St) : Prop := ∀ k, (s.ws k = .slp → loc s k = 0) ∧ (s.ws k ≠ .slp → loc s k = 1)

/-- the fetcher's private list is empty whenever it looks at the shared one -/
def N (s : St) : Prop := (s.f = .idle ∨ ∃ k, s.f = .f1 k) ∨ s.local_ = []

/-- `waitingG` holds a real g exactly while the fetcher sleeps, `preparing` only between its decision and commit -/
def Mi (s : St) : Prop :=
  (s.wg = .parked ↔ s.f = .parked) ∧ (s.wg = .preparing → (s.f = .n4 ∨ s.f = .n5 ∨ s.f = .park ∨ s.f = .cs2))

def waking : APC → Bool
  | .e3 _ => true
  | .e4 _ _ => true
  | _ => false

/-- **wake-up invariant**: while the fetcher commits to sleep or sleeps with `waitingG` still set, a nonempty shared
list has a pusher still in its wake loop -/
def K (s : St) : Prop :=
  (s.f = .park ∨ s.f = .cs2 ∨ s.f = .parked) → s.wg ≠ .zero → s.shared ≠ [] → ∃ p ∈ s.ts, waking p = true

def SInv (s : St) : Prop := J s ∧ N s ∧ Mi s ∧ K s

theorem inv_init (n : Nat) : SInv (St.init n) := by
  refine ⟨?_, Or.inl (Or.inl rfl), ⟨by simp [St.init], by simp [St.init]⟩, by simp [K, St.init]⟩
  intro k
  simp [St.init, loc, sumOver_eq_zero, inflight]

/-- in how many places a waker has to be whose pointer is `w` -/
def want (w : WS) : Nat := if w = .slp then 0 else 1

theorem want_iff (n : Nat) (w : WS) : n = want w ↔ (w = .slp → n = 0) ∧ (w ≠ .slp → n = 1) := by
  unfold want
  by_cases h : w = .slp <;> simp [h]

theorem J_iff (s : St) : J s ↔ ∀ k, loc s k = want (s.ws k) := forall_congr' fun _ => (want_iff _ _).symm

theorem J.step {s s' : St} (hj : J s) (h : ∀ k, loc s' k + want (s.ws k) = loc s k + want (s'.ws k)) : J s' :=
  (J_iff s').mpr fun k => by have := (J_iff s).mp hj k; have := h k; omega

theorem popLocal_frame (s : St) : s.popLocal.ws = s.ws ∧ s.popLocal.shared = s.shared ∧ s.popLocal.ts = s.ts ∧
    s.popLocal.wg = s.wg ∧ ((s.popLocal.f = .n2 ∧ s.popLocal.local_ = []) ∨ ∃ k, s.popLocal.f = .f1 k) := by
  unfold St.popLocal
  cases hl : s.local_ with
  | nil => exact ⟨rfl, rfl, rfl, rfl, Or.inl ⟨rfl, by simp⟩⟩
  | cons j rest => exact ⟨rfl, rfl, rfl, rfl, Or.inr ⟨j, rfl⟩⟩

theorem popLocal_J (s : St) (h : J s) (hf : ∀ j, s.f ≠ .f1 j) : J s.popLocal := h.step fun k => by
  unfold St.popLocal loc
  cases hl : s.local_ with
  | nil => simp [hf k]
  | cons j rest =>
    by_cases hjk : j = k
    · subst hjk; simp [hf j]; omega
    · simp [hf k, hjk]

theorem N.local_nil {s : St} (hn : N s) {g : FPC} (hf : s.f = g) (h1 : g ≠ .idle) (h2 : ∀ k, g ≠ .f1 k) : s.local_ = [] :=
  hn.resolve_left fun h => h.elim (hf ▸ h1) fun ⟨k, hk⟩ => h2 k (hf ▸ hk)

theorem ctl_J (s : St) (g : FPC) (w : WG) (h : J s) (h0 : ∀ k, s.f ≠ .f1 k) (hg : ∀ k, g ≠ .f1 k) :
    J { s with wg := w, f := g } :=
  h.step fun k => by unfold loc; rw [if_neg (h0 k), if_neg (hg k)]

theorem fstep_J (s : St) (h : J s) : J (s.fstep).1 := by
  obtain ⟨ws, sh, lo, wg, f, bl, ts⟩ := s
  unfold St.fstep
  cases f with
  | idle | parked => exact h
  | n2 | n3 | n4 | n5 | park | cs2 =>
    simp only
    repeat' split
    all_goals exact ctl_J _ _ _ h nofun nofun
  | n7 =>
    refine popLocal_J _ (h.step fun k => ?_) nofun
    unfold loc
    simp [List.count_reverse]
  | f1 k =>
    simp only
    -- the hands were the one place of the waker they held
    have base : ∀ (g : FPC), (∀ j, g ≠ .f1 j) → J ⟨setWs ws k .slp, sh, lo, wg, g, bl, ts⟩ := fun g hg =>
      (J_iff _).mpr fun j => by
        have hj := (J_iff _).mp h j
        unfold loc want at hj ⊢
        by_cases hjk : k = j
        · subst hjk
          simp only [hg k, setWs, if_true, if_false] at hj ⊢
          split at hj <;> omega
        · simpa [hg j, setWs, hjk, Ne.symm hjk] using hj
    split
    · exact base .idle nofun
    · exact popLocal_J ⟨setWs ws k .slp, sh, lo, wg, .n2, bl, ts⟩ (base .n2 nofun) nofun

theorem popLocal_N (s : St) : N s.popLocal :=
  (popLocal_frame s).2.2.2.2.elim (fun h => Or.inr h.2) fun h => Or.inl (Or.inr h)

theorem fstep_N (s : St) (hn : N s) : N (s.fstep).1 := by
  obtain ⟨ws, sh, lo, wg, f, bl, ts⟩ := s
  unfold St.fstep
  cases f with
  | idle | parked => exact hn
  | n2 | n3 | n4 | n5 | park | cs2 =>
    have hl : lo = [] := hn.local_nil rfl nofun nofun
    simp only
    repeat' split
    all_goals exact Or.inr hl
  | n7 => exact popLocal_N _
  | f1 k =>
    simp only
    split
    · exact Or.inl (Or.inl rfl)
    · exact popLocal_N _

/-- `Mi` as a table: the values of `waitingG` that go with each pc -/
def wgOK : FPC → WG → Bool
  | .parked, w => w == .parked
  | .n4, w | .n5, w | .park, w | .cs2, w => w != .parked
  | _, w => w == .zero

theorem Mi_iff (s : St) : Mi s ↔ wgOK s.f s.wg = true := by
  unfold Mi
  cases s.f <;> cases s.wg <;> simp [wgOK]

theorem wgOK_zero {f : FPC} {w : WG} (h : wgOK f w = true) (hw : w ≠ .parked) : wgOK f .zero = true := by
  cases f with
  | parked =>
    -- the one row that forbids `0` allows nothing but `parked`
    cases w with
    | parked => exact absurd rfl hw
    | _ => cases h
  | _ => rfl

theorem wgOK_popLocal (s : St) (w : WG) : wgOK s.popLocal.f w = (w == .zero) := by
  unfold St.popLocal
  cases s.local_ <;> rfl

theorem popLocal_Mi (s : St) (h : wgOK .idle s.wg = true) : Mi s.popLocal := by
  rw [Mi_iff, wgOK_popLocal, (popLocal_frame s).2.2.2.1]; exact h

theorem fstep_Mi (s : St) (hm : Mi s) : Mi (s.fstep).1 := by
  rw [Mi_iff] at hm
  obtain ⟨ws, sh, lo, wg, f, bl, ts⟩ := s
  unfold St.fstep
  cases f with
  | idle | parked => exact (Mi_iff _).mpr hm
  | n7 => exact popLocal_Mi _ hm
  | f1 k =>
    dsimp only
    split
    · exact (Mi_iff _).mpr hm
    · exact popLocal_Mi _ hm
  | n2 | n4 =>
    -- the new pc is in the same row of the table
    dsimp only
    repeat' split
    all_goals exact (Mi_iff _).mpr hm
  | n3 | n5 => exact (Mi_iff _).mpr rfl  -- `waitingG` has just been written
  | park =>
    dsimp only
    split
    · -- just read as 0
      rename_i hz
      exact (Mi_iff _).mpr (by rw [hz]; rfl)
    · exact (Mi_iff _).mpr hm
  | cs2 =>
    dsimp only
    split
    · exact (Mi_iff _).mpr rfl
    · exact (Mi_iff _).mpr hm

theorem K_of_awake {s : St} (h : s.f ≠ .park ∧ s.f ≠ .cs2 ∧ s.f ≠ .parked) : K s :=
  fun hh => hh.elim (absurd · h.1) (·.elim (absurd · h.2.1) (absurd · h.2.2))

theorem popLocal_K (s : St) : K s.popLocal :=
  K_of_awake (by rcases (popLocal_frame s).2.2.2.2 with ⟨h, _⟩ | ⟨k, h⟩ <;> rw [h] <;> simp)

theorem fstep_K (s : St) (hk : K s) : K (s.fstep).1 := by
  unfold St.fstep
  cases hf : s.f with
  | idle => exact K_of_awake (by simp [hf])
  | parked => exact hk
  | n2 | n3 | n5 =>
    simp only
    repeat' split
    all_goals exact K_of_awake (by simp)
  | n4 =>
    simp only
    split
    · exact K_of_awake (by simp)
    · -- the fetcher goes on to sleep only if it has just seen the shared list empty
      rename_i he
      exact fun _ _ hs => absurd hs he
  | park =>
    simp only
    split
    · exact K_of_awake (by simp)
    · exact fun _ => hk (Or.inl hf)
  | cs2 =>
    simp only
    split
    · rename_i hprep
      exact fun _ _ => hk (Or.inr (Or.inl hf)) (by rw [hprep]; simp)
    · exact fun _ => hk (Or.inr (Or.inl hf))
  | n7 => exact popLocal_K _
  | f1 k =>
    simp only
    split
    · exact K_of_awake (by simp)
    · exact popLocal_K _

theorem mem_set_of_ne {l : List APC} {t : Nat} {new p : APC} (hp : p ∈ l.set t new) : p = new ∨ p ∈ l :=
  (List.mem_or_eq_of_mem_set hp).symm

theorem waking_set (l : List APC) (t : Nat) (old new : APC) (h : l[t]? = some old)
    (hcase : waking new = true ∨ waking old = false ∧ ∃ p ∈ l, waking p = true) : ∃ p ∈ l.set t new, waking p = true := by
  obtain ⟨hlt, hold⟩ := List.getElem?_eq_some_iff.mp h
  rcases hcase with hc | ⟨hc, p, hp, hpw⟩
  · exact ⟨new, List.mem_set hlt new, hc⟩
  · obtain ⟨i, hi, rfl⟩ := List.getElem_of_mem hp
    have hit : t ≠ i := by
      intro e; subst e
      rw [hold, hc] at hpw; cases hpw
    exact ⟨l[i], List.mem_of_getElem? (by rw [List.getElem?_set_ne hit]; exact List.getElem?_eq_getElem hi), hpw⟩

theorem setWs_same (ws : Nat → WS) (k : Nat) (v : WS) : setWs ws k v k = v := by simp [setWs]
theorem setWs_other (ws : Nat → WS) (k j : Nat) (v : WS) (h : j ≠ k) : setWs ws k v j = ws j := by simp [setWs, h]

theorem setWs_cases (ws : Nat → WS) (k : Nat) (v : WS) (j : Nat) : setWs ws k v j = ws j ∨ j = k ∧ setWs ws k v j = v := by
  by_cases h : j = k
  · exact Or.inr ⟨h, by rw [h, setWs_same]⟩
  · exact Or.inl (setWs_other ws k j v h)

/-- every branch of `astep` is an instance, by record eta: that is why `W S G F` are `_` at every call -/
theorem J_astep (s : St) (t : Nat) (old new : APC) (h : s.ts[t]? = some old) (hj : J s) (W : Nat → WS) (S : List Nat)
    (G : WG) (F : FPC) (hF : ∀ k, F = .f1 k ↔ s.f = .f1 k)
    (hbal : ∀ k, S.count k + inflight k new + want (s.ws k) = s.shared.count k + inflight k old + want (W k)) :
    J { s with ws := W, shared := S, wg := G, f := F, ts := s.ts.set t new } :=
  hj.step fun k => by
    have := sumOver_set (inflight k) s.ts t old new h
    have := hbal k
    unfold loc
    simp only [hF k]
    omega

theorem J_set_plain (s : St) (t : Nat) (old new : APC) (h : s.ts[t]? = some old) (hj : J s)
    (hi : ∀ k, inflight k old = inflight k new) : J { s with ts := s.ts.set t new } :=
  J_astep s t old new h hj _ _ _ _ (fun _ => Iff.rfl) (fun k => by rw [hi k])

theorem astep_f (s : St) (t : Nat) : (s.astep t).1.f = s.f ∨ s.wg = .parked := by
  unfold St.astep
  cases s.ts[t]? with
  | none => exact Or.inl rfl
  | some pc =>
    cases pc with
    | e4 k g =>
      dsimp only
      split
      · rename_i hwg
        by_cases hg : g = .parked
        · exact Or.inr (hwg.trans hg)
        · exact Or.inl (if_neg hg)
      · exact Or.inl rfl
    | _ =>
      dsimp only
      repeat' split
      all_goals exact Or.inl rfl

theorem SInv.set_pc {s : St} (h : SInv s) {t : Nat} {old : APC} (hts : s.ts[t]? = some old) (new : APC)
    (hi : ∀ k, inflight k old = inflight k new) (hw : waking new = true ∨ waking old = false) :
    SInv { s with ts := s.ts.set t new } :=
  ⟨J_set_plain s t old new hts h.1 hi, h.2.1, h.2.2.1, fun hf hz hs =>
    waking_set s.ts t old new hts (hw.imp id fun hw => ⟨hw, h.2.2.2 hf hz hs⟩)⟩

theorem astep_inv (s : St) (t : Nat) (h : SInv s) : SInv (s.astep t).1 := by
  have ⟨hj, hn, hm, hk⟩ := h
  unfold St.astep
  cases hts : s.ts[t]? with
  | none => exact h
  | some pc =>
    have plain := h.set_pc hts
    -- this goroutine was not in the wake loop: whoever was still is
    have kp : ∀ (W : Nat → WS) (new : APC), waking pc = false → K { s with ws := W, ts := s.ts.set t new } :=
      fun _ new hw hf hz hs => waking_set s.ts t pc new hts (Or.inr ⟨hw, hk hf hz hs⟩)
    cases pc with
    | idle => exact h
    | a1 k | c1 k => simp only; split <;> exact plain _ (fun _ => rfl) (Or.inr rfl)
    | e1 k => exact plain _ (fun _ => rfl) (Or.inr rfl)
    | e3 k =>
      simp only
      split
      · -- leaves the wake loop only on `waitingG = 0`: `K` asks nothing
        rename_i hz
        exact ⟨J_set_plain s t _ _ hts hj (fun _ => rfl), hn, hm, fun _ hnz _ => absurd hz hnz⟩
      · exact plain _ (fun _ => rfl) (Or.inl rfl)
    | a2 k =>
      -- asserted from now on, and in flight if the swap found the sleeper
      simp only
      split <;> rename_i hold <;> refine ⟨J_astep s t _ _ hts hj _ _ _ _ (fun _ => Iff.rfl) fun j => ?_, hn, hm, kp _ _ rfl⟩ <;>
        by_cases hjk : k = j
      · subst hjk; simp [inflight, want, setWs, hold]
      · simp [inflight, want, setWs, hjk, Ne.symm hjk]
      · subst hjk; simp [inflight, want, setWs, hold]
      · simp [inflight, want, setWs, Ne.symm hjk]
    | e2 k snap =>
      simp only
      split
      · -- pushed: from "in flight" onto the shared stack; this goroutine enters the wake loop
        refine ⟨J_astep s t _ _ hts hj _ _ _ _ (fun _ => Iff.rfl) fun j => ?_, hn, hm,
          fun _ _ _ => waking_set s.ts t _ _ hts (Or.inl rfl)⟩
        by_cases hjk : k = j <;> simp [inflight, hjk] <;> omega
      · exact plain _ (fun _ => rfl) (Or.inr rfl)
    | e4 k g =>
      simp only
      split
      · -- the fetcher's pc changes only from `parked` to `n2`: neither holds a waker, the local list was empty
        rename_i hwg
        by_cases hg : g = .parked
        · have hp : s.f = .parked := hm.1.mp (hwg.trans hg)
          refine ⟨J_astep s t _ _ hts hj _ _ _ _ (fun j => by simp [hg, hp]) (fun _ => rfl),
            Or.inr (hn.local_nil hp nofun nofun), (Mi_iff _).mpr (by simp [hg, wgOK]), fun _ hnz _ => absurd rfl hnz⟩
        · refine ⟨J_astep s t _ _ hts hj _ _ _ _ (fun j => by simp [hg]) (fun _ => rfl), by simpa [N, hg] using hn,
            (Mi_iff _).mpr (by simpa [hg] using wgOK_zero ((Mi_iff s).mp hm) (hwg ▸ hg)), fun _ hnz _ => absurd rfl hnz⟩
      · exact plain _ (fun _ => rfl) (Or.inl rfl)
    | c2 k =>
      simp only
      split
      · -- cleared: the pointer asks for one place as before
        rename_i hold
        refine ⟨J_astep s t _ _ hts hj _ _ _ _ (fun _ => Iff.rfl) fun j => ?_, hn, hm, kp _ _ rfl⟩
        by_cases hjk : k = j
        · subst hjk; simp [inflight, want, setWs, hold]
        · simp [inflight, want, setWs, Ne.symm hjk]
      · exact plain _ (fun _ => rfl) (Or.inr rfl)

theorem startFetch_inv (s : St) (b : Bool) (h : SInv s) : SInv (s.startFetch b) := by
  unfold St.startFetch
  split
  · rename_i hidle
    exact ⟨popLocal_J _ (h.1.step fun _ => rfl) fun _ hj => FPC.noConfusion (hidle.symm.trans hj), popLocal_N _,
      popLocal_Mi _ (hidle ▸ (Mi_iff s).mp h.2.2.1), popLocal_K _⟩
  · exact h

theorem startCall_inv (s : St) (t : Nat) (c : Call) (h : SInv s) : SInv (s.startCall t c) := by
  unfold St.startCall
  cases hts : s.ts[t]? with
  | none => exact h
  | some pc => cases pc <;> cases c <;> first | exact h | exact h.set_pc hts _ (fun _ => rfl) (Or.inr rfl)

theorem act_inv (s : St) (a : Act) (h : SInv s) : SInv (s.act a).1 := by
  cases a with
  | fetch b => exact startFetch_inv s b h
  | fstep => exact ⟨fstep_J s h.1, fstep_N s h.2.1, fstep_Mi s h.2.2.1, fstep_K s h.2.2.2⟩
  | call t c => exact startCall_inv s t c h
  | astep t => exact astep_inv s t h

theorem reachable_inv (n : Nat) (acts : List Act) : SInv (run n acts) := by
  unfold run
  exact List.foldlRecOn acts _ (inv_init n) fun s h a _ => act_inv s a h

/-- also for a waker asserted and then cleared: while the fetcher sleeps and nobody is in a call, every pointer names
the sleeper -/
theorem SInv.no_lost_wakeup {s : St} (h : SInv s) :
    ¬ (s.f = .parked ∧ (∀ p ∈ s.ts, p = .idle) ∧ ∃ k, s.ws k ≠ .slp) := by
  obtain ⟨hj, hn, hm, hk⟩ := h
  intro ⟨hf, hidle, k, hk1⟩
  have hl := hn.local_nil hf nofun nofun
  have hloc := (hj k).2 hk1
  unfold loc at hloc
  rw [hl, (sumOver_eq_zero _ _).mpr fun p hp => by rw [hidle p hp]; rfl, hf] at hloc
  simp at hloc
  -- the waker can only be on the shared stack: its pusher would still be in the wake loop
  have hs : s.shared ≠ [] := by intro h; rw [h] at hloc; simp at hloc
  have hz : s.wg ≠ .zero := by rw [hm.1.mpr hf]; nofun
  obtain ⟨p, hp, hw⟩ := hk (Or.inr (Or.inr hf)) hz hs
  rw [hidle p hp] at hw
  cases hw

/-- **C19 (no lost wake-up)**: no interleaving reaches a state in which the fetcher sleeps, every asserting
goroutine has finished, and some waker is asserted (and not cleared) -/
theorem no_lost_wakeup (n : Nat) (acts : List Act) :
    ¬ ((run n acts).f = .parked ∧ (∀ p ∈ (run n acts).ts, p = .idle) ∧ ∃ k, (run n acts).ws k = .asserted) :=
  fun ⟨hf, hi, k, hk⟩ => (reachable_inv n acts).no_lost_wakeup ⟨hf, hi, k, by rw [hk]; nofun⟩

theorem fstep_ev (s : St) :
    s.fstep.2 = .none ∨
    (∃ k, s.f = .f1 k ∧ s.ws k = .asserted ∧ s.fstep = ({ s with ws := setWs s.ws k .slp, f := .idle }, .fetched k)) ∨
    (s.f = .n2 ∧ s.shared = [] ∧ s.fstep.2 = .fetchNone) := by
  unfold St.fstep
  cases hf : s.f with
  | f1 k =>
    dsimp only
    split
    · rename_i ho; exact Or.inr (Or.inl ⟨k, rfl, ho, rfl⟩)
    · exact Or.inl rfl
  | n2 =>
    dsimp only
    split
    · exact Or.inl rfl
    · rename_i hs
      split
      · exact Or.inr (Or.inr ⟨rfl, by simpa using hs, rfl⟩)
      · exact Or.inl rfl
  | n4 | park | cs2 => dsimp only; split <;> exact Or.inl rfl
  | idle | parked | n3 | n5 | n7 => exact Or.inl rfl

theorem fstep_ws (s : St) (k : Nat) : (s.fstep).1.ws k = s.ws k ∨ (s.fstep).1.ws k = .slp := by
  unfold St.fstep
  cases s.f with
  | f1 j =>
    dsimp only
    split
    · exact (setWs_cases s.ws j .slp k).imp id (·.2)
    · rw [(popLocal_frame _).1]; exact (setWs_cases s.ws j .slp k).imp id (·.2)
  | n7 => exact Or.inl (congrFun (popLocal_frame _).1 k)
  | _ =>
    dsimp only
    repeat' split
    all_goals exact Or.inl rfl

theorem astep_ws (s : St) (t k : Nat) :
    (s.astep t).1.ws k = s.ws k ∨ (s.astep t).1.ws k = .nil ∨ s.ts[t]? = some (.a2 k) := by
  unfold St.astep
  cases s.ts[t]? with
  | none => exact Or.inl rfl
  | some pc =>
    cases pc with
    | a2 j =>
      dsimp only
      split <;> exact (setWs_cases s.ws j .asserted k).elim Or.inl (fun h => Or.inr (Or.inr (by rw [h.1])))
    | c2 j =>
      dsimp only
      split
      · exact (setWs_cases s.ws j .nil k).elim Or.inl (fun h => Or.inr (Or.inl h.2))
      · exact Or.inl rfl
    | _ =>
      dsimp only
      repeat' split
      all_goals exact Or.inl rfl

/-- **C19 (nothing invented)**: `Fetch` returns an identifier only for a waker that is asserted at that moment, and
takes the assertion with it (the waker is attached and idle again afterwards) -/
theorem fetched_was_asserted (s : St) (k : Nat) (h : (s.fstep).2 = .fetched k) :
    s.ws k = .asserted ∧ (s.fstep).1.ws k = .slp := by
  rcases fstep_ev s with h0 | ⟨j, _, ha, e⟩ | ⟨_, _, h0⟩
  · rw [h0] at h; cases h
  · rw [e] at h ⊢
    cases h
    exact ⟨ha, setWs_same _ _ _⟩
  · rw [h0] at h; cases h

/-- ... and a waker becomes asserted only through the swap of an `Assert` call: several assertions before a fetch give
one notification -/
theorem asserted_only_by_assert (s : St) (a : Act) (k : Nat) (h0 : s.ws k ≠ .asserted) (h1 : (s.act a).1.ws k = .asserted) :
    ∃ t, a = .astep t ∧ s.ts[t]? = some (.a2 k) := by
  cases a with
  | fetch b =>
    simp only [St.act, St.startFetch] at h1
    split at h1
    · rw [(popLocal_frame _).1] at h1; exact absurd h1 h0
    · exact absurd h1 h0
  | call t c =>
    simp only [St.act, St.startCall] at h1
    split at h1 <;> exact absurd h1 h0
  | fstep =>
    change s.fstep.1.ws k = _ at h1
    rcases fstep_ws s k with h | h <;> rw [h] at h1
    · exact absurd h1 h0
    · cases h1
  | astep t =>
    refine ⟨t, rfl, ?_⟩
    change (s.astep t).1.ws k = _ at h1
    rcases astep_ws s t k with h | h | h
    · rw [h] at h1; exact absurd h1 h0
    · rw [h] at h1; cases h1
    · exact h

/-- exactly one push, and also for a waker asserted and then cleared -/
theorem fetchNone_inflight {s : St} (hj : J s) (hn : N s) (h : (s.fstep).2 = .fetchNone) :
    ∀ k, s.ws k ≠ .slp → sumOver (inflight k) s.ts = 1 := by
  intro k hk1
  rcases fstep_ev s with h0 | ⟨j, _, _, e⟩ | ⟨hf, hs, _⟩
  · rw [h0] at h; cases h
  · rw [e] at h; cases h
  · have hloc := (hj k).2 hk1
    unfold loc at hloc
    rw [hn.local_nil hf nofun nofun, hs, hf] at hloc
    simpa using hloc

/-- **C19 (non-blocking fetch)**: `Fetch(false)` reports nothing only when no attached waker has a completed,
unconsumed assertion: every waker asserted at that moment is still being pushed by its `Assert` call -/
theorem fetchNone_only_if_nothing_completed (n : Nat) (acts : List Act) (h : ((run n acts).fstep).2 = .fetchNone) :
    ∀ k, (run n acts).ws k = .asserted → 0 < sumOver (inflight k) (run n acts).ts :=
  fun k hk => Nat.le_of_eq
    (fetchNone_inflight (reachable_inv n acts).1 (reachable_inv n acts).2.1 h k (by rw [hk]; nofun)).symm

theorem J.loc_le_one {s : St} (hj : J s) (k : Nat) : loc s k ≤ 1 := by
  by_cases h : s.ws k = .slp
  · rw [(hj k).1 h]; exact Nat.zero_le 1
  · rw [(hj k).2 h]; exact Nat.le_refl 1

/-- **C19 (no duplicates)**: a waker is never queued twice -/
theorem never_queued_twice (n : Nat) (acts : List Act) (k : Nat) :
    (run n acts).shared.count k + (run n acts).local_.count k ≤ 1 := by
  have := (reachable_inv n acts).1.loc_le_one k
  unfold loc at this; omega

/-- KNOWN FINDING (c19.nonblocking-fetch-misses-assertion-whose-push-is-in-flight): the clause as worded ("... no
attached waker has a completed, unconsumed assertion") fails in one corner: goroutine 0's `Assert(1)` has swapped the
waker to asserted but not pushed it; goroutine 1's `Assert(1)` sees it asserted and returns (a completed assertion);
`Fetch(false)` finds the shared list empty.  `fetchNone_only_if_nothing_completed` is the clause the code satisfies. -/
theorem nonblocking_miss_witness :
    let acts : List Act := [.fetch false, .call 0 (.assert 1), .astep 0, .astep 0,   -- goroutine 0: load, swap: asserted, push pending
      .call 1 (.assert 1), .astep 1]                                                  -- goroutine 1: sees it asserted, returns
    (run 2 acts).ts[1]? = some .idle ∧ (run 2 acts).ws 1 = .asserted ∧ ((run 2 acts).fstep).2 = .fetchNone := by decide

/-- non-vacuity, the classic race: the assert lands between the fetcher's decision to sleep and its commit -/
example :
    let acts : List Act := [.fetch true, .fstep, .fstep, .fstep,          -- n2 (empty) → n3 → n4 (still empty) → park
      .call 0 (.assert 5), .astep 0, .astep 0, .astep 0, .astep 0, .astep 0, .astep 0, .astep 0,  -- push, see preparing, CAS it to 0
      .fstep, .fstep, .fstep]                                              -- commit sees 0 → n2 → n7 → f1
    (run 1 acts).f = .f1 5 ∧ (run 1 acts).wg = .zero := by decide

end Props.C19
