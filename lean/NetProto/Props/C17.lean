import NetProto.Model.Waiter
/-!
# C17 — readiness notifications reach exactly the registered, interested waiters
The intrusive doubly linked list of `pkg/ilist`, as `waiter.Queue` uses it, refines a plain list of entries, at pointer
level.  `PushBack` and `Remove` are one surgery on the links (`chain_splice`: a prefix of the chain gets another
continuation).
-/
namespace C17
open Model.Waiter

/-- the links along `L` are consistent, `p` standing before the first node and nil behind the last -/
def Chain (nodes : Nat → Node) : Option Nat → List Nat → Prop
  | _, [] => True
  | p, x :: rest => (nodes x).prev = p ∧ (nodes x).next = rest.head? ∧ Chain nodes (some x) rest

/-- the heap represents the list `L` -/
structure WF (q : Q) (L : List Nat) : Prop where
  nodup : L.Nodup
  head : q.head = L.head?
  tail : q.tail = L.getLast?
  chain : Chain q.nodes none L

theorem chain_congr (f g : Nat → Node) (p : Option Nat) (L : List Nat)
    (h : ∀ x ∈ L, (g x).prev = (f x).prev ∧ (g x).next = (f x).next) :
    Chain g p L ↔ Chain f p L := by
  induction L generalizing p with
  | nil => simp [Chain]
  | cons x t ih =>
    simp only [Chain]
    have hx := h x (by simp)
    rw [hx.1, hx.2, ih (some x) (fun y hy => h y (by simp [hy]))]

/-- `fuel` only makes `walk` structurally recursive (the Go loop follows `next` until nil); any bound from the list's
length on gives the whole list -/
theorem walk_chain (nodes : Nat → Node) (p : Option Nat) (L : List Nat) (fuel : Nat)
    (hc : Chain nodes p L) (hf : L.length ≤ fuel) : walk nodes fuel L.head? = L := by
  induction L generalizing p fuel with
  | nil => cases fuel <;> simp [walk]
  | cons x t ih =>
    cases fuel with
    | zero => simp at hf
    | succ n =>
      simp only [List.head?_cons, walk]
      obtain ⟨_, h2, h3⟩ := hc
      rw [h2, ih (some x) n h3 (by simpa using hf)]

theorem unregister_nodes (q : Q) (e x : Nat) :
    ((unregister q e).nodes x).next = (if (q.nodes e).prev = some x then (q.nodes e).next else (q.nodes x).next) ∧
    ((unregister q e).nodes x).prev = (if (q.nodes e).next = some x then (q.nodes e).prev else (q.nodes x).prev) ∧
    ((unregister q e).nodes x).mask = (q.nodes x).mask ∧ ((unregister q e).nodes x).token = (q.nodes x).token := by
  unfold unregister
  -- the shapes of `e`'s links, and in each whether `x` is its predecessor or successor
  cases (q.nodes e).prev with
  | none =>
    cases (q.nodes e).next with
    | none => simp
    | some n =>
      by_cases hn : n = x
      · subst hn; simp [upd]
      · simp [upd, hn, Ne.symm hn]
  | some p =>
    cases (q.nodes e).next with
    | none =>
      by_cases hp : p = x
      · subst hp; simp [upd]
      · simp [upd, hp, Ne.symm hp]
    | some n =>
      by_cases hp : p = x <;> by_cases hn : n = x
      · subst hp; subst hn; simp [upd]
      · subst hp; simp [upd, hn, Ne.symm hn]
      · subst hn; simp [upd, hp, Ne.symm hp]
      · simp [upd, hp, hn, Ne.symm hp, Ne.symm hn]

theorem unregister_ends (q : Q) (e : Nat) :
    (unregister q e).head = (match (q.nodes e).prev with | some _ => q.head | none => (q.nodes e).next) ∧
    (unregister q e).tail = (match (q.nodes e).next with | some _ => q.tail | none => (q.nodes e).prev) := by
  unfold unregister
  cases (q.nodes e).prev <;> cases (q.nodes e).next <;> exact ⟨rfl, rfl⟩

theorem upd_token (f : Nat → Node) (i : Nat) (n : Node) (x : Nat) (h : n.token = (f i).token) :
    (upd f i n x).token = (f x).token := by
  unfold upd
  split
  · rename_i e; rw [e, h]
  · rfl

theorem register_token (q : Q) (e m x : Nat) : ((register q e m).nodes x).token = (q.nodes x).token := by
  unfold register
  cases q.tail with
  | none => exact upd_token _ _ _ _ rfl
  | some t =>
    exact (upd_token _ _ _ _ (by rfl)).trans (upd_token _ _ _ _ (by rfl))

theorem unregister_token (q : Q) (e x : Nat) : ((unregister q e).nodes x).token = (q.nodes x).token :=
  (unregister_nodes q e x).2.2.2

theorem getLast?_cons_some (a : Nat) (t : List Nat) : ∃ z, (a :: t).getLast? = some z :=
  ⟨_, List.getLast?_eq_some_getLast (List.cons_ne_nil a t)⟩

/-- the node before what follows `a :: A`, with `p` standing before the whole list -/
theorem last_or_cons (p : Option Nat) (a : Nat) (A : List Nat) :
    (a :: A).getLast?.or p = A.getLast?.or (some a) := by
  rw [List.getLast?_cons]; cases A.getLast? <;> rfl

theorem chain_drop (nodes : Nat → Node) (p : Option Nat) (A X : List Nat) (hc : Chain nodes p (A ++ X)) :
    Chain nodes (A.getLast?.or p) X := by
  induction A generalizing p with
  | nil => exact hc
  | cons a t ih => rw [last_or_cons]; exact ih (some a) hc.2.2

/-- The surgery both operations are: `A` keeps its links but for the `next` of its last node, which now points at `Y`,
itself linked behind `A`; `X`, what came after `A` before, is forgotten.  `p` is general for the induction. -/
theorem chain_splice (f g : Nat → Node) (p : Option Nat) (A X Y : List Nat) (hnd : A.Nodup)
    (hc : Chain f p (A ++ X)) (hY : Chain g (A.getLast?.or p) Y)
    (hA : ∀ x ∈ A, (g x).prev = (f x).prev ∧
      (g x).next = if A.getLast?.or p = some x then Y.head? else (f x).next) :
    Chain g p (A ++ Y) := by
  induction A generalizing p with
  | nil => exact hY
  | cons a A' ih =>
    obtain ⟨ha1, ha2, hrest⟩ := hc
    obtain ⟨haA, hnd'⟩ := List.nodup_cons.mp hnd
    rw [last_or_cons] at hY hA
    refine ⟨(hA a (by simp)).1.trans ha1, ?_, ih (some a) hnd' hrest hY fun x hx => hA x (by simp [hx])⟩
    rw [(hA a (by simp)).2]
    cases A' with
    | nil => simp
    | cons a' r =>
      obtain ⟨z, hz⟩ := getLast?_cons_some a' r
      have hza : z ≠ a := fun h => haA (h ▸ List.mem_of_getLast? hz)
      simp [hz, hza, ha2]

/-- `chain_splice` with `A`, `e :: B`, `B` for `L = A ++ e :: B` -/
theorem unregister_wf (q : Q) (L : List Nat) (e : Nat) (h : WF q L) (he : e ∈ L) :
    WF (unregister q e) (L.erase e) ∧ ∀ x, ((unregister q e).nodes x).mask = (q.nodes x).mask := by
  obtain ⟨A, B, rfl, heA⟩ := List.eq_append_cons_of_mem he
  obtain ⟨hnd, hh, ht, hc⟩ := h
  obtain ⟨ep, en, hB⟩ := chain_drop q.nodes none A (e :: B) hc
  rw [Option.or_none] at ep
  obtain ⟨uh, ut⟩ := unregister_ends q e
  have hnd' := hnd.erase e
  have herase : (A ++ e :: B).erase e = A ++ B := by
    rw [List.erase_append_right _ heA]; simp
  rw [herase] at hnd' ⊢
  obtain ⟨hA, hBn, hAB⟩ := List.nodup_append.mp hnd'
  have hpB : ∀ x ∈ B, A.getLast? ≠ some x := fun x hx h => hAB x (List.mem_of_getLast? h) x hx rfl
  have hnA : ∀ x ∈ A, B.head? ≠ some x := fun x hx h => hAB x hx x (List.mem_of_mem_head? h) rfl
  refine ⟨⟨hnd', ?_, ?_, ?_⟩, fun x => (unregister_nodes q e x).2.2.1⟩
  · rw [uh, ep, en]
    cases A with
    | nil => simp
    | cons a t =>
      obtain ⟨z, hz⟩ := getLast?_cons_some a t
      simp [hz, hh]
  · rw [ut, ep, en]
    cases B with
    | nil => simp
    | cons b t => simp [ht, List.getLast?_append]
  · refine chain_splice q.nodes _ none A (e :: B) B hA hc ?_ fun x hx => ?_
    · -- the first entry of `B` gets `e`'s predecessor, the rest of `B` is as it was
      rw [Option.or_none]
      cases B with
      | nil => trivial
      | cons b B' =>
        have hb := unregister_nodes q e b
        rw [ep, en, if_neg (hpB b (by simp))] at hb
        refine ⟨by simpa using hb.2.1, hb.1.trans hB.2.1, (chain_congr q.nodes _ (some b) B' fun x hx => ?_).mpr hB.2.2⟩
        have hx' := unregister_nodes q e x
        rw [ep, en, if_neg (hpB x (by simp [hx]))] at hx'
        have hbx : b ≠ x := fun h => (List.nodup_cons.mp hBn).1 (h ▸ hx)
        exact ⟨by simpa [hbx] using hx'.2.1, hx'.1⟩
    · have hx' := unregister_nodes q e x
      rw [ep, en, if_neg (hnA x hx)] at hx'
      rw [Option.or_none]
      exact ⟨hx'.2.1, hx'.1⟩

/-- `chain_splice` with `L`, `[]`, `[e]` -/
theorem register_wf (q : Q) (L : List Nat) (e mask : Nat) (h : WF q L) (he : e ∉ L) :
    WF (register q e mask) (L ++ [e]) ∧ ((register q e mask).nodes e).mask = mask ∧
    ∀ x, x ≠ e → ((register q e mask).nodes x).mask = (q.nodes x).mask := by
  obtain ⟨hnd, hh, ht, hc⟩ := h
  have hnd' : (L ++ [e]).Nodup := List.nodup_append.mpr
    ⟨hnd, List.pairwise_singleton _ e, fun a ha b hb h => he (List.mem_singleton.mp hb ▸ h ▸ ha)⟩
  have hc0 : Chain q.nodes none (L ++ []) := by rwa [List.append_nil]
  unfold register
  cases L with
  | nil =>
    simp only [List.getLast?_nil] at ht
    simp only [ht]
    refine ⟨⟨hnd', rfl, rfl, ?_⟩, by simp [upd], fun x hx => by simp [upd, hx]⟩
    simp [Chain, upd]
  | cons a r =>
    obtain ⟨t, htl⟩ := getLast?_cons_some a r
    rw [htl] at ht
    simp only [ht]
    have hte : t ≠ e := fun h => he (h ▸ List.mem_of_getLast? htl)
    refine ⟨⟨hnd', ?_, ?_, ?_⟩, ?_, ?_⟩
    · simp [hh]
    · rw [List.getLast?_append]; simp
    · refine chain_splice q.nodes _ none (a :: r) [] [e] hnd hc0 ?_ fun x hx => ?_
      · simp [Chain, htl, upd, Ne.symm hte]
      · have hxe : x ≠ e := fun h => he (h ▸ hx)
        by_cases hxt : x = t
        · subst hxt; simp [upd, htl, hxe]
        · simp [upd, hxe, hxt, htl, Ne.symm hxt]
    · simp [upd, Ne.symm hte]
    · intro x hx
      by_cases hxt : x = t
      · subst hxt; simp [upd, hx]
      · simp [upd, hx, hxt]

/-- abstract state: the registered entries with their masks, in registration order -/
abbrev Abs := List (Nat × Nat)

structure Rep (q : Q) (A : Abs) : Prop where
  wf : WF q (A.map (·.1))
  masks : ∀ p ∈ A, (q.nodes p.1).mask = p.2

theorem rep_init : Rep {} [] := ⟨⟨by simp, rfl, rfl, trivial⟩, by simp⟩

theorem rep_register (q : Q) (A : Abs) (e m : Nat) (h : Rep q A) (he : e ∉ A.map (·.1)) :
    Rep (register q e m) (A ++ [(e, m)]) := by
  obtain ⟨w, hm, ho⟩ := register_wf q _ e m h.wf he
  refine ⟨by simpa using w, fun p hp => ?_⟩
  rcases List.mem_append.mp hp with hp | hp
  · exact (ho _ fun heq => he (List.mem_map.mpr ⟨p, hp, heq⟩)).trans (h.masks p hp)
  · cases List.mem_singleton.mp hp
    exact hm

theorem rep_unregister (q : Q) (A : Abs) (e : Nat) (h : Rep q A) (he : e ∈ A.map (·.1)) :
    Rep (unregister q e) (A.filter (·.1 != e)) := by
  obtain ⟨w, ho⟩ := unregister_wf q _ e h.wf he
  have hmap : (A.filter (·.1 != e)).map (·.1) = (A.map (·.1)).erase e := by
    rw [List.Nodup.erase_eq_filter h.wf.nodup, List.filter_map]; rfl
  exact ⟨hmap ▸ w, fun p hp => (ho _).trans (h.masks p (List.mem_filter.mp hp).1)⟩

/-- **`Notify`**: exactly the registered entries whose mask intersects are called back, each once, in registration
    order. -/
theorem notify_exact (q : Q) (A : Abs) (fuel mask : Nat) (h : Rep q A) (hf : A.length ≤ fuel) :
    (notify q fuel mask).2 = (A.filter fun p => mask &&& p.2 != 0).map (·.1) := by
  unfold notify toList
  simp only
  rw [h.wf.head, walk_chain q.nodes none _ fuel h.wf.chain (by simpa using hf)]
  rw [List.filter_map]
  exact congrArg _ (List.filter_congr fun p hp => by simp [h.masks p hp])

/-- each entry is called back at most once per notification -/
theorem notify_nodup (q : Q) (A : Abs) (fuel mask : Nat) (h : Rep q A) (hf : A.length ≤ fuel) :
    (notify q fuel mask).2.Nodup := by
  rw [notify_exact q A fuel mask h hf]
  exact List.Nodup.sublist (List.Sublist.map _ List.filter_sublist) h.wf.nodup

/-- an entry gets no callback after its unregistration has returned -/
theorem unregister_final (q : Q) (A : Abs) (e fuel mask : Nat) (h : Rep q A) (he : e ∈ A.map (·.1))
    (hf : A.length ≤ fuel) : e ∉ (notify (unregister q e) fuel mask).2 := by
  have h' := rep_unregister q A e h he
  rw [notify_exact _ _ fuel mask h' (Nat.le_trans (List.length_filter_le _ _) hf)]
  intro hmem
  simp only [List.mem_map, List.mem_filter] at hmem
  obtain ⟨p, ⟨⟨_, hp2⟩, _⟩, hp3⟩ := hmem
  simp [hp3] at hp2

inductive Op
  | reg (e m : Nat) | unreg (e : Nat)

/-- the API contract: register only an unregistered entry, unregister only a registered one -/
def Op.ok (A : Abs) : Op → Prop
  | .reg e _ => e ∉ A.map (·.1)
  | .unreg e => e ∈ A.map (·.1)

def stepQ (q : Q) : Op → Q
  | .reg e m => register q e m
  | .unreg e => unregister q e

def stepA (A : Abs) : Op → Abs
  | .reg e m => A ++ [(e, m)]
  | .unreg e => A.filter (·.1 != e)

/-- contract-respecting histories -/
def OkSeq : Abs → List Op → Prop
  | _, [] => True
  | A, op :: t => op.ok A ∧ OkSeq (stepA A op) t

/-- **Every history** of register/unregister within the contract keeps the heap a representation of the abstract
    list. -/
theorem refines (ops : List Op) (h : OkSeq [] ops) :
    Rep (ops.foldl stepQ {}) (ops.foldl stepA []) := by
  suffices hs : ∀ q A, Rep q A → OkSeq A ops → Rep (ops.foldl stepQ q) (ops.foldl stepA A) from
    hs {} [] rep_init h
  clear h
  induction ops with
  | nil => intro q A hr _; exact hr
  | cons op t ih =>
    intro q A hr hok
    simp only [List.foldl_cons]
    apply ih _ _ _ hok.2
    cases op with
    | reg e m => exact rep_register q A e m hr hok.1
    | unreg e => exact rep_unregister q A e hr hok.1

/-- channel entries: a notification that reaches the entry leaves a token in its channel, and further queue operations
    do not remove it -/
theorem token_kept (q : Q) (fuel mask e : Nat) (h : e ∈ (notify q fuel mask).2) :
    ((notify q fuel mask).1.nodes e).token = true ∧
    ∀ e' m', e' ≠ e → ((register (notify q fuel mask).1 e' m').nodes e).token = true ∧
                      ((unregister (notify q fuel mask).1 e').nodes e).token = true := by
  have ht : ((notify q fuel mask).1.nodes e).token = true := by
    unfold notify at h ⊢
    simp only at h ⊢
    have : (List.filter (fun e => mask &&& (q.nodes e).mask != 0) (toList q fuel)).contains e = true := by
      simpa using h
    rw [if_pos this]
  exact ⟨ht, fun e' m' _ => ⟨(register_token ..).trans ht, (unregister_token ..).trans ht⟩⟩

/-- why the contract matters: removing an entry that was never linked empties a non-empty queue -/
theorem remove_unlinked_witness :
    let q := register (register {} 1 1) 2 1
    toList q 8 = [1, 2] ∧ toList (unregister q 3) 8 = [] := by decide

example : (notify (unregister (register (register (register {} 0 1) 1 2) 2 3) 1) 8 2).2 = [2] := by decide

end C17
