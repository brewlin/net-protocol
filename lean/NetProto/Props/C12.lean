import NetProto.Generated.Consts
import NetProto.Model.Neigh
import NetProto.Props.ByteLemmas
/-!
# C12 — neighbour resolution: ARP answers, learning, the cache, the retry budget

Model: `Model.Neigh`, the ARP handler `arpHandle` and the link address cache; the cache theorems rest on `WFc`.
-/
namespace C12
open Model.Neigh

/-- the numbers the property names are the ones in the source now (nanoseconds there; the model's defaults
`timeout := 1000`, `age := 60000` are the same times in milliseconds) -/
theorem constants_anchor :
    Gen.Consts.linkAddrCacheSize = 512 ∧ Gen.Consts.resolutionAttempts = 3 ∧
    Gen.Consts.resolutionTimeout = 1000000000 ∧ Gen.Consts.ageLimit = 60000000000 := by decide

/-- `arp.HandlePacket` in one piece -/
theorem arpHandle_eq (pkt : List Nat) (isLocal : Addr → Bool) (ourMac fromMac : Mac) :
    arpHandle pkt isLocal ourMac fromMac =
      if Model.Header.arpIsValid pkt = true ∧ Model.Header.rd16 pkt 6 = 1 ∧ isLocal ((pkt.drop 24).take 4) = true then
        ⟨some (Model.Header.arpBuild (List.replicate 28 0) 2 ourMac ((pkt.drop 24).take 4) ((pkt.drop 8).take 6)
          ((pkt.drop 14).take 4), fromMac), some ((pkt.drop 14).take 4, (pkt.drop 8).take 6)⟩
      else if Model.Header.arpIsValid pkt = true ∧ Model.Header.rd16 pkt 6 = 2 then
        ⟨none, some ((pkt.drop 14).take 4, (pkt.drop 8).take 6)⟩
      else ⟨none, none⟩ := by
  unfold arpHandle
  cases Model.Header.arpIsValid pkt
  · rfl
  · by_cases h1 : Model.Header.rd16 pkt 6 = 1
    · cases hl : isLocal ((pkt.drop 24).take 4) <;> simp [h1, hl]
    · by_cases h2 : Model.Header.rd16 pkt 6 = 2 <;> simp [h1, h2]

/-- **a reply is produced iff the packet is a valid request whose target is one of our addresses** -/
theorem arp_reply_iff_own (pkt : List Nat) (isLocal : Addr → Bool) (ourMac fromMac : Mac) :
    (arpHandle pkt isLocal ourMac fromMac).reply.isSome = true ↔
      (Model.Header.arpIsValid pkt = true ∧ Model.Header.rd16 pkt 6 = 1 ∧ isLocal ((pkt.drop 24).take 4) = true) := by
  rw [arpHandle_eq]
  split
  · next h => simp [h]
  · next h => split <;> simpa using h

/-- the reply is only built after `IsValid`, so the packet's length need not be assumed -/
theorem arp_reply_decodes (pkt : List Nat) (isLocal : Addr → Bool) (ourMac fromMac : Mac) (b : List Nat) (to : Mac)
    (hm : ourMac.length = 6) (h : (arpHandle pkt isLocal ourMac fromMac).reply = some (b, to)) :
    to = fromMac ∧
    Spec.Rfc.decodeARP b = some ⟨1, 0x0800, 6, 4, 2, ourMac, (pkt.drop 24).take 4, (pkt.drop 8).take 6, (pkt.drop 14).take 4⟩ := by
  rw [arpHandle_eq] at h
  split at h
  · next hv =>
    have hl := Props.Hdr.arpIsValid_length pkt hv.1
    obtain ⟨rfl, rfl⟩ := Prod.mk.inj (Option.some.inj h)
    exact ⟨rfl, Props.Hdr.decodeARP_arpBuild 2 ourMac _ _ _ (by decide) hm
      (by rw [List.length_take, List.length_drop]; omega) (by rw [List.length_take, List.length_drop]; omega)
      (by rw [List.length_take, List.length_drop]; omega)⟩
  · split at h <;> cases h

/-- the reply carries our link address and the requested address as sender, the requester's addresses as target,
opcode 2, and goes to the link address the request came from (`arp_reply_decodes` in the form DESIGN.md cites) -/
theorem arp_reply_fields (pkt : List Nat) (isLocal : Addr → Bool) (ourMac fromMac : Mac) (b : List Nat) (to : Mac)
    (hm : ourMac.length = 6) (hl : 28 ≤ pkt.length)
    (h : (arpHandle pkt isLocal ourMac fromMac).reply = some (b, to)) :
    to = fromMac ∧
    Spec.Rfc.decodeARP b = some ⟨1, 0x0800, 6, 4, 2, ourMac, (pkt.drop 24).take 4, (pkt.drop 8).take 6, (pkt.drop 14).take 4⟩ :=
  arp_reply_decodes pkt isLocal ourMac fromMac b to hm h

/-- **learning**: the sender's mapping is learned from replies and from requests addressed to us, and from nothing else -/
theorem arp_learns_iff (pkt : List Nat) (isLocal : Addr → Bool) (ourMac fromMac : Mac) :
    (arpHandle pkt isLocal ourMac fromMac).learn.isSome = true ↔
      (Model.Header.arpIsValid pkt = true ∧
        (Model.Header.rd16 pkt 6 = 2 ∨ (Model.Header.rd16 pkt 6 = 1 ∧ isLocal ((pkt.drop 24).take 4) = true))) := by
  rw [arpHandle_eq]
  split
  · next h => simp [h]
  · split
    · next h => simp [h]
    · next h1 h2 => simpa using fun hv => ⟨fun h => h2 ⟨hv, h⟩, fun h => by simpa using fun hl => h1 ⟨hv, h, hl⟩⟩

theorem arp_learns_sender (pkt : List Nat) (isLocal : Addr → Bool) (ourMac fromMac : Mac) (a : Addr) (m : Mac)
    (h : (arpHandle pkt isLocal ourMac fromMac).learn = some (a, m)) :
    a = (pkt.drop 14).take 4 ∧ m = (pkt.drop 8).take 6 := by
  rw [arpHandle_eq] at h
  split at h
  · cases h; exact ⟨rfl, rfl⟩
  · split at h <;> cases h
    exact ⟨rfl, rfl⟩

theorem changeState_ok (e : Entry) (ns : EState) (h : e.st = .incomplete ∨ ns = .expired) :
    ∃ e' o, changeState e ns = some (e', o) ∧ e'.key = e.key ∧ e'.link = e.link ∧ e'.st = ns ∧
      ∀ x ∈ o, ∃ kk n, x = Out.wake kk n := by
  unfold changeState
  split
  · next heq => exact ⟨e, [], rfl, rfl, rfl, by simpa using heq, nofun⟩
  · next hne =>
    cases hs : e.st
    · refine ⟨_, _, rfl, rfl, rfl, rfl, fun x hx => ?_⟩
      split at hx
      · exact ⟨_, _, List.mem_singleton.mp hx⟩
      · cases hx
    -- from `ready` and `failed` the only way is to `expired`; from `expired` there is none, and none is asked for
    all_goals obtain rfl : ns = .expired := h.resolve_left (by simp [hs])
    · exact ⟨_, _, rfl, rfl, rfl, rfl, nofun⟩
    · exact ⟨_, _, rfl, rfl, rfl, rfl, nofun⟩
    · simp [hs] at hne

/-- well-formed cache: the ring has `size` slots and `next` points into it -/
structure WFc (c : Cache) : Prop where
  len : c.slots.length = c.size
  pos : 0 < c.size
  nxt : c.next < c.size
  /-- the map points into the ring and every mapped slot holds the key it is filed under -/
  keys : ∀ p ∈ c.map, p.2 < c.size ∧ (c.slots.getD p.2 {}).key = p.1
  uniq : (c.map.map (·.1)).Nodup

theorem wf_init (size age timeout attempts : Nat) (h : 0 < size) : WFc (Cache.init size age timeout attempts) := by
  refine ⟨by simp [Cache.init], h, h, ?_, ?_⟩
  · intro p hp; simp [Cache.init] at hp
  · simp [Cache.init]

theorem lookup_iff (c : Cache) (k : Key) (i : Nat) (hnd : (c.map.map (·.1)).Nodup) :
    c.lookup k = some i ↔ (k, i) ∈ c.map := by
  unfold Cache.lookup
  generalize c.map = l at hnd ⊢
  induction l with
  | nil => simp
  | cons p t ih =>
    obtain ⟨a, b⟩ := p
    rw [List.map_cons, List.nodup_cons] at hnd
    rw [List.mem_cons]
    by_cases hk : a = k
    · subst hk
      have : (a, i) ∉ t := fun h => hnd.1 (List.mem_map.mpr ⟨_, h, rfl⟩)
      simp [this, eq_comm]
    · rw [List.find?_cons_of_neg (by simpa using hk), ih hnd.2]
      simp [Ne.symm hk]

theorem getD_set {α} (l : List α) (i j : Nat) (a d : α) :
    (l.set i a).getD j d = if i = j ∧ i < l.length then a else l.getD j d := by
  simp only [List.getD_eq_getElem?_getD, List.getElem?_set]
  by_cases h : i = j
  · subst h
    by_cases h' : i < l.length <;> simp [h']
  · simp [h]

/-- `makeAndAddEntry` never panics and keeps the cache well-formed; the new entry sits at the slot the map now gives
for `k` -/
theorem makeAndAdd_wf (c : Cache) (k : Key) (v : Mac) (h : WFc c) :
    ∃ c' i outs, c.makeAndAdd k v = some (c', i, outs) ∧ WFc c' ∧ c'.lookup k = some i ∧
      (c'.slots.getD i {}).key = k ∧ (c'.slots.getD i {}).st = .incomplete ∧ (c'.slots.getD i {}).link = v ∧
      c'.now = c.now ∧ c'.size = c.size ∧ c'.attempts = c.attempts ∧ c'.timeout = c.timeout := by
  unfold Cache.makeAndAdd
  have hlt : c.next < c.slots.length := h.len ▸ h.nxt
  simp only [List.getElem?_eq_getElem hlt]
  obtain ⟨e', outs, hr, _⟩ := changeState_ok c.slots[c.next] .expired (.inr rfl)
  simp only [hr]
  -- the map without the recycled slot's old mapping: part of the old map, and nothing in it points at the slot
  generalize hmap1 : (if c.lookup c.slots[c.next].key == some c.next then _ else c.map) = map1
  have hsub : map1.Sublist c.map := by
    rw [← hmap1]; split
    · exact List.filter_sublist
    · exact List.Sublist.refl _
  have hfree : ∀ p ∈ map1, p.2 ≠ c.next := by
    intro p hp hpi
    have hp0 := hsub.subset hp
    have hold : c.slots[c.next].key = p.1 := by
      have := (h.keys p hp0).2; rwa [hpi, ← List.getElem_eq_getD (h := hlt)] at this
    have hl : c.lookup c.slots[c.next].key = some c.next := by
      rw [hold, ← hpi]; exact (lookup_iff c p.1 p.2 h.uniq).mpr hp0
    rw [← hmap1, hl] at hp
    simp only [beq_self_eq_true, if_true] at hp
    simpa [hold] using (List.mem_filter.mp hp).2
  have hnew : ∀ (e : Entry), (c.slots.set c.next e).getD c.next {} = e := fun e => by
    rw [getD_set, if_pos ⟨rfl, hlt⟩]
  refine ⟨_, _, _, rfl, ⟨by simp [h.len], h.pos, Nat.mod_lt _ h.pos, ?_, ?_⟩, by simp [Cache.lookup],
    by rw [hnew], by rw [hnew], by rw [hnew], rfl, rfl, rfl, rfl⟩
  · intro p hp
    rcases List.mem_cons.mp hp with rfl | hp
    · exact ⟨h.nxt, by rw [hnew]⟩
    · have hp1 := (List.mem_filter.mp hp).1
      obtain ⟨hb, hkey⟩ := h.keys p (hsub.subset hp1)
      exact ⟨hb, by rw [getD_set, if_neg fun hc => hfree p hp1 hc.1.symm]; exact hkey⟩
  · simp only [List.map_cons, List.nodup_cons]
    refine ⟨fun hmem => ?_, (h.uniq.sublist ((List.filter_sublist.trans hsub).map _))⟩
    obtain ⟨q, hq, hqk⟩ := List.mem_map.mp hmem
    simpa [hqk] using (List.mem_filter.mp hq).2

theorem setSlot_key (c : Cache) (i : Nat) (e : Entry) (hk : e.key = (c.slots.getD i {}).key) (j : Nat) :
    ((c.setSlot i e).slots.getD j {}).key = (c.slots.getD j {}).key := by
  simp only [Cache.setSlot, getD_set]
  split
  · next hi => rw [hk, hi.1]
  · rfl

theorem setSlot_wf (c : Cache) (i : Nat) (e : Entry) (h : WFc c) (hk : e.key = (c.slots.getD i {}).key) :
    WFc (c.setSlot i e) :=
  ⟨by simp [Cache.setSlot, h.len], h.pos, h.nxt,
    fun p hp => ⟨(h.keys p hp).1, (setSlot_key c i e hk p.2).trans (h.keys p hp).2⟩, h.uniq⟩

theorem cancel_wf (c : Cache) (h : WFc c) : WFc c.cancel :=
  ⟨h.len, h.pos, h.nxt, h.keys, h.uniq⟩

/-- the lazy expiry of `state()` rewrites at most the slot it looks at -/
theorem touch_eq (c : Cache) (i : Nat) (e : Entry) (he : c.slots[i]? = some e) :
    ∃ e0 o0, c.touch i = some (c.setSlot i e0, o0) ∧ e0.key = e.key ∧ e0.link = e.link ∧ e0.st = stateOf c.now e := by
  unfold Cache.touch stateOf
  simp only [he]
  split
  · obtain ⟨e', o, hr, hk, hl, hs, _⟩ := changeState_ok e .expired (.inr rfl)
    exact ⟨e', o, by rw [hr]; rfl, hk, hl, hs⟩
  · obtain ⟨hlt, rfl⟩ := List.getElem?_eq_some_iff.mp he
    exact ⟨_, [], by rw [Cache.setSlot, List.set_getElem_self], rfl, rfl, rfl⟩

/-- the lazy expiry never panics and keeps the cache well-formed -/
theorem touch_wf (c : Cache) (i : Nat) (h : WFc c) :
    ∃ c' o, c.touch i = some (c', o) ∧ WFc c' ∧ c'.map = c.map ∧ c'.now = c.now ∧ c'.size = c.size ∧
      c'.attempts = c.attempts ∧ c'.timeout = c.timeout ∧
      (∀ j, (c'.slots.getD j {}).key = (c.slots.getD j {}).key) := by
  cases he : c.slots[i]? with
  | none => exact ⟨c, [], by rw [Cache.touch, he], h, rfl, rfl, rfl, rfl, rfl, fun _ => rfl⟩
  | some e =>
    obtain ⟨e0, o0, ht, hk, -, -⟩ := touch_eq c i e he
    obtain ⟨hlt, rfl⟩ := List.getElem?_eq_some_iff.mp he
    rw [List.getElem_eq_getD (h := hlt) {}] at hk
    exact ⟨_, _, ht, setSlot_wf c i e0 h hk, rfl, rfl, rfl, rfl, rfl, setSlot_key c i e0 hk⟩

/-- **`add` never panics** (whatever state the existing entry is in) and keeps the cache well-formed, overwrites with a
new link address and ring overflow included -/
theorem add_total_wf (c : Cache) (k : Key) (v : Mac) (h : WFc c) :
    ∃ c' o, c.add k v = some (c', o) ∧ WFc c' := by
  unfold Cache.add
  extract_lets fresh
  have hfresh : ∀ (c0 : Cache) (o0 : List Out), WFc c0 → ∃ c' o, fresh c0 o0 = some (c', o) ∧ WFc c' := by
    intro c0 o0 h0
    obtain ⟨c1, i, o1, hm, hw1, hl1, _, hs1, _⟩ := makeAndAdd_wf c0 k v h0
    simp only [fresh, hm]
    have hi : i < c1.slots.length := hw1.len ▸ (hw1.keys (k, i) ((lookup_iff c1 k i hw1.uniq).mp hl1)).1
    simp only [List.getElem?_eq_getElem hi]
    rw [← List.getElem_eq_getD (h := hi)] at hs1
    obtain ⟨e', o2, hr, hk, _⟩ := changeState_ok c1.slots[i] .ready (.inl hs1)
    exact ⟨_, _, by rw [hr]; rfl, cancel_wf _ (setSlot_wf c1 i e' hw1 (by rw [hk, ← List.getElem_eq_getD (h := hi)]))⟩
  cases hl : c.lookup k with
  | none => exact hfresh c [] h
  | some i =>
    obtain ⟨c0, o0, ht, hw0, _, _, hsz, _⟩ := touch_wf c i h
    simp only [ht]
    have hi : i < c0.slots.length := by
      rw [hw0.len, hsz]; exact (h.keys (k, i) ((lookup_iff c k i h.uniq).mp hl)).1
    simp only [List.getElem?_eq_getElem hi]
    split
    · exact ⟨_, _, rfl, cancel_wf _ hw0⟩
    · split
      · rename_i hinc
        obtain ⟨e', o2, hr, hk, _⟩ :=
          changeState_ok { c0.slots[i] with link := v } .ready (.inl (by simpa using hinc))
        exact ⟨_, _, by rw [hr]; rfl, cancel_wf _ (setSlot_wf c0 i e' hw0 (by rw [hk, ← List.getElem_eq_getD (h := hi)]))⟩
      · exact hfresh c0 o0 hw0

/-- **the retry budget**: when a resolution timer fires on a still-incomplete entry, either this was the last attempt
and the entry becomes `failed` (waiters are woken), or exactly one more request is broadcast and one more timer armed -/
theorem fire_budget (c : Cache) (r : Res) (i : Nat) (e : Entry) (h : WFc c)
    (hl : ({ c with pending := c.pending.filter (· != r) } : Cache).lookup r.key = some i)
    (he : c.slots[i]? = some e) (hst : e.st = .incomplete) (hexp : ¬ c.now > e.exp) :
    (r.attempt + 1 ≥ c.attempts →
        ∃ c' o, c.fire r = some (c', o) ∧ (c'.slots.getD i {}).st = .failed ∧ (c'.slots.getD i {}).key = e.key ∧
          ∀ x ∈ o, ∃ kk n, x = Out.wake kk n) ∧
    (r.attempt + 1 < c.attempts →
        ∃ c', c.fire r = some (c', [Out.request r.key r.localAddr r.proto]) ∧
          { r with attempt := r.attempt + 1, deadline := r.deadline + c.timeout } ∈ c'.pending) := by
  obtain ⟨hlt, _⟩ := List.getElem?_eq_some_iff.mp he
  have htouch : ({ c with pending := c.pending.filter (· != r) } : Cache).touch i =
      some ({ c with pending := c.pending.filter (· != r) }, []) := by
    simp [Cache.touch, he, hexp]
  unfold Cache.fire
  simp only [hl, htouch, he, hst]
  constructor
  · intro hlast
    simp only [hlast, if_true]
    obtain ⟨e', o, hr, k1, -, k4, hw⟩ := changeState_ok e .failed (.inl hst)
    refine ⟨_, _, by rw [hr]; rfl, ?_, ?_, by simpa using hw⟩
    · simp [Cache.cancel, Cache.setSlot, List.getD, hlt, k4]
    · simp [Cache.cancel, Cache.setSlot, List.getD, hlt, k1]
  · intro hmore
    rw [if_neg (by omega)]
    exact ⟨_, rfl, by simp⟩

/-- **a lookup reports a link address only from a ready, unexpired entry filed under exactly the key asked for** -/
theorem get_sound (c : Cache) (k : Key) (la : Addr) (p : Nat) (c' : Cache) (m : Mac) (o : List Out) (h : WFc c)
    (hg : c.get k none true la p = some (c', .addr m, o)) :
    ∃ i e, c.lookup k = some i ∧ c.slots[i]? = some e ∧ e.key = k ∧ e.link = m ∧ e.st = .ready ∧ c.now ≤ e.exp := by
  unfold Cache.get at hg
  extract_lets w1 startNew at hg
  -- a new resolution answers "no link address" or "would block", never an address
  have hnew : ∀ c0 o0, startNew c0 o0 ≠ some (c', .addr m, o) := by
    intro c0 o0 h
    simp only [startNew] at h
    split at h
    · simp at h
    · split at h
      · simp at h
      · split at h <;> simp at h
  cases hl : c.lookup k with
  | none =>
    rw [hl] at hg
    exact absurd hg (hnew _ _)
  | some i =>
    simp only [hl] at hg
    obtain ⟨hb, hkey⟩ := h.keys (k, i) ((lookup_iff c k i h.uniq).mp hl)
    have hlt : i < c.slots.length := h.len ▸ hb
    rw [← List.getElem_eq_getD (h := hlt)] at hkey
    obtain ⟨e0, o0, ht, -, hlink, hst⟩ := touch_eq c i _ (List.getElem?_eq_getElem hlt)
    have he0 : (c.setSlot i e0).slots[i]? = some e0 := by simp [Cache.setSlot, hlt]
    simp only [ht, he0] at hg
    cases hs : e0.st with
    | ready =>
      simp only [hs, Option.some.injEq, Prod.mk.injEq, GetRes.addr.injEq] at hg
      rw [hs, stateOf] at hst
      split at hst
      · cases hst
      · next hexp =>
        refine ⟨i, c.slots[i], rfl, List.getElem?_eq_getElem hlt, hkey, hlink ▸ hg.2.1, hst.symm, ?_⟩
        simp [← hst] at hexp; omega
    | incomplete => simp [hs] at hg
    | failed => simp [hs] at hg
    | expired =>
      simp only [hs] at hg
      exact absurd hg (hnew _ _)

/-- resolve (would block), answer, look up again (the address) -/
example :
    let c0 := Cache.init 4 600 100 3
    let r1 := c0.get ⟨1, [10, 0, 0, 9]⟩ none true [10, 0, 0, 1] 2048
    (r1.map (·.2.1)) = some GetRes.wouldBlock ∧
    ((r1.bind fun x => x.1.add ⟨1, [10, 0, 0, 9]⟩ [2, 0, 0, 0, 0, 9]).bind fun y =>
      (y.1.get ⟨1, [10, 0, 0, 9]⟩ none true [10, 0, 0, 1] 2048).map (·.2.1)) = some (GetRes.addr [2, 0, 0, 0, 0, 9]) := by
  decide

end C12
