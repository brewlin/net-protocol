import NetProto.Generated.Arith
import NetProto.Generated.Consts
import NetProto.Model.Ports
/-!
# C10 — port reservations are exclusive; ephemeral ports are found when free

The search is treated on `pick` with an arbitrary acceptance test (arithmetic on the expression regenerated from
`PickEphemeralPort`), reservations on `reserveSpecific` and `release`. Left out: `reservePort` and
`reserveEphemeralFrom`, the search whose test is the reservation itself, have no lemma.
-/
namespace C10
open Model.Ports

theorem firstEphemeral_anchor : Gen.Consts.FirstEphemeral = 16000 := by decide
theorem count_anchor : Gen.Arith.pickCount = 49536#16 := by decide

/-- the model's port arithmetic is the code's -/
theorem model_eq_generated (offset i : BitVec 16) :
    pickPort offset i = Gen.Arith.pickPort offset i Gen.Arith.pickCount := by
  rfl

/-- nothing wraps, whatever the offset and the index -/
theorem pickPort_val (offset i : BitVec 16) :
    (Gen.Arith.pickPort offset i Gen.Arith.pickCount).toNat = 16000 + (offset.toNat + i.toNat) % 49536 := by
  unfold Gen.Arith.pickPort Gen.Arith.pickCount
  have h1 := offset.isLt
  have h2 := i.isLt
  simp only [BitVec.toNat_add, BitVec.toNat_setWidth, BitVec.toNat_umod, BitVec.toNat_ofNat, Nat.reducePow,
    Nat.reduceMod] at *
  omega

theorem pickPort_toNat (offset i : BitVec 16) (ho : offset.toNat < 49536) (hi : i.toNat < 49536) :
    (Gen.Arith.pickPort offset i Gen.Arith.pickCount).toNat = 16000 + (offset.toNat + i.toNat) % 49536 :=
  pickPort_val offset i

theorem pick_surjective (offset : BitVec 16) (p : Nat) (hp : 16000 ≤ p ∧ p ≤ 65535) :
    ∃ i : Nat, i < 49536 ∧ (pickPort offset (BitVec.ofNat 16 i)).toNat = p := by
  have ho := offset.isLt
  -- solve `(offset + i) % 49536 = p - 16000` for `i`
  refine ⟨(p - 16000 + 49536 - offset.toNat % 49536) % 49536, by omega, ?_⟩
  rw [model_eq_generated, pickPort_val]
  simp only [BitVec.toNat_ofNat, Nat.reducePow]
  omega

theorem pickFrom_eq (offset : BitVec 16) (test : BitVec 16 → Bool) (fuel i : Nat) :
    pickFrom offset test fuel i =
      ((List.range' i fuel).find? fun k => test (pickPort offset (BitVec.ofNat 16 k))).map
        fun k => (pickPort offset (BitVec.ofNat 16 k), k + 1) := by
  induction fuel generalizing i with
  | zero => rfl
  | succ f ih =>
    unfold pickFrom
    rw [List.range'_succ, List.find?_cons]
    split
    · next ht => simp only [ht, if_true, Option.map_some]
    · next ht => simp only [ht, Bool.false_eq_true, if_false, ih (i + 1)]

/-- **A port returned by the ephemeral search is in [16000, 65535] and was acceptable.** -/
theorem pick_range_free (offset : BitVec 16) (ho : offset.toNat < 49536) (test : BitVec 16 → Bool)
    (p : BitVec 16) (n : Nat) (h : pick offset test = some (p, n)) :
    16000 ≤ p.toNat ∧ p.toNat ≤ 65535 ∧ test p = true := by
  unfold pick at h
  rw [pickFrom_eq, Option.map_eq_some_iff] at h
  obtain ⟨k, hk, e⟩ := h
  obtain rfl : pickPort offset (BitVec.ofNat 16 k) = p := congrArg Prod.fst e
  have := pickPort_val offset (BitVec.ofNat 16 k)
  rw [← model_eq_generated] at this
  have ht := List.find?_some hk
  exact ⟨by omega, by omega, ht⟩

/-- **The search fails only when no port of the range is acceptable.** -/
theorem pick_complete (offset : BitVec 16) (ho : offset.toNat < 49536) (test : BitVec 16 → Bool)
    (h : pick offset test = none) : ∀ p : BitVec 16, 16000 ≤ p.toNat → test p = false := by
  intro p hp
  obtain ⟨i, hi, hpi⟩ := pick_surjective offset p.toNat ⟨hp, by have := p.isLt; omega⟩
  unfold pick at h
  rw [pickFrom_eq, Option.map_eq_none_iff, List.find?_eq_none] at h
  rw [← BitVec.eq_of_toNat_eq hpi]
  simpa using h i (List.mem_range'_1.mpr ⟨Nat.zero_le i, by simpa [count] using hi⟩)

/-- from the last offset the search wraps to the first port at its second step -/
example : pick 49535#16 (fun p => p == 16000#16) = some (16000#16, 2) := by decide

def NoConflict (T : PM) : Prop := T.Pairwise fun x y => conflict x y = false

theorem conflict_symm (x y : Tup) : conflict x y = conflict y x := by
  unfold conflict
  rw [BEq.comm (a := x.net), BEq.comm (a := x.trans), BEq.comm (a := x.port), BEq.comm (a := x.addr) (b := y.addr),
    Bool.or_comm (x.addr == [])]

theorem conflict_self (x : Tup) : conflict x x = true := by simp [conflict]

theorem availOne_iff (T : PM) (n t p : Nat) (a : List Nat) :
    availOne T n t p a = true ↔ ∀ x ∈ T, conflict x ⟨n, t, p, a⟩ = false := by
  simp [availOne, List.all_eq_true]

theorem isAvailable_iff (T : PM) (ns : List Nat) (t : Nat) (a : List Nat) (p : Nat) :
    isAvailable T ns t a p = true ↔ ∀ n ∈ ns, ∀ x ∈ T, conflict x ⟨n, t, p, a⟩ = false := by
  simp only [isAvailable, List.all_eq_true, availOne_iff]

theorem mem_addTups (T : PM) (ns : List Nat) (t p : Nat) (a : List Nat) (y : Tup) :
    y ∈ addTups T ns t p a ↔ y ∈ T ∨ ∃ n ∈ ns, y = ⟨n, t, p, a⟩ := by
  induction ns generalizing T with
  | nil => simp [addTups]
  | cons n ns ih =>
    unfold addTups
    simp only [ih, List.mem_cons, exists_eq_or_imp]
    split
    · next hc =>
      have hmem : (⟨n, t, p, a⟩ : Tup) ∈ T := by simpa using hc
      exact ⟨fun h => h.elim Or.inl fun h => Or.inr (Or.inr h),
        fun h => h.elim Or.inl fun h => h.elim (fun e => Or.inl (e ▸ hmem)) Or.inr⟩
    · simp only [List.mem_append, List.mem_singleton, or_assoc]

theorem addTups_noConflict (T : PM) (ns : List Nat) (t p : Nat) (a : List Nat) (hT : NoConflict T)
    (hav : ∀ n ∈ ns, ∀ x ∈ T, x = ⟨n, t, p, a⟩ ∨ conflict x ⟨n, t, p, a⟩ = false) :
    NoConflict (addTups T ns t p a) := by
  induction ns generalizing T with
  | nil => exact hT
  | cons n ns ih =>
    unfold addTups
    simp only
    have hav' := fun m hm => hav m (List.mem_cons_of_mem n hm)
    split
    · exact ih T hT hav'
    · next hc =>
      have hnm : (⟨n, t, p, a⟩ : Tup) ∉ T := by simpa using hc
      refine ih _ (List.pairwise_append.mpr ⟨hT, by simp, fun x hx y hy => ?_⟩) fun m hm x hx => ?_
      · rw [List.mem_singleton.mp hy]
        exact (hav n (List.mem_cons_self ..) x hx).resolve_left fun e => hnm (e ▸ hx)
      · rcases List.mem_append.mp hx with hx | hx
        · exact hav' m hm x hx
        · rw [List.mem_singleton.mp hx]
          -- the new tuple against a later descriptor of the same reservation: equal, or another network
          by_cases hnm' : n = m
          · exact Or.inl (hnm' ▸ rfl)
          · exact Or.inr (by simp [conflict, hnm'])

/-- **Exclusivity, one step**: a reservation succeeds iff none of its descriptors conflicts with a live one; on success
    exactly its tuples are added, conflict-free; on failure nothing changes. -/
theorem reserve_spec (T : PM) (ns : List Nat) (t : Nat) (a : List Nat) (p : Nat) (hT : NoConflict T) :
    ((reserveSpecific T ns t a p).2 = true ↔ ∀ n ∈ ns, ∀ x ∈ T, conflict x ⟨n, t, p, a⟩ = false) ∧
    NoConflict (reserveSpecific T ns t a p).1 ∧
    ((reserveSpecific T ns t a p).2 = false → (reserveSpecific T ns t a p).1 = T) ∧
    ((reserveSpecific T ns t a p).2 = true →
        ∀ y, y ∈ (reserveSpecific T ns t a p).1 ↔ y ∈ T ∨ ∃ n ∈ ns, y = ⟨n, t, p, a⟩) := by
  have hiff := isAvailable_iff T ns t a p
  unfold reserveSpecific
  split
  · next h =>
    exact ⟨by simpa using hiff.mp h, addTups_noConflict T ns t p a hT fun n hn x hx => Or.inr (hiff.mp h n hn x hx),
      by simp, fun _ y => mem_addTups T ns t p a y⟩
  · next h => exact ⟨by simpa [← hiff] using h, hT, by simp, by simp⟩

theorem release_spec (T : PM) (ns : List Nat) (t : Nat) (a : List Nat) (p : Nat) (hT : NoConflict T) :
    NoConflict (release T ns t a p) ∧
    ∀ y, y ∈ release T ns t a p ↔ y ∈ T ∧ ¬ (y.net ∈ ns ∧ y.trans = t ∧ y.port = p ∧ y.addr = a) := by
  exact ⟨List.Pairwise.filter _ hT, fun y => by simp [release, Decidable.imp_iff_not_or, or_assoc]⟩

/-- after reserving on a conflict-free state and releasing the same reservation, the request is available again -/
theorem release_restores (T : PM) (ns : List Nat) (t : Nat) (a : List Nat) (p : Nat) (hT : NoConflict T)
    (hok : (reserveSpecific T ns t a p).2 = true) :
    isAvailable (release (reserveSpecific T ns t a p).1 ns t a p) ns t a p = true := by
  obtain ⟨h1, h2, _, h4⟩ := reserve_spec T ns t a p hT
  have hfree := h1.mp hok
  rw [isAvailable_iff]
  intro n hn x hx
  obtain ⟨hx1, hx2⟩ := (release_spec _ ns t a p h2).2 x |>.mp hx
  rcases (h4 hok x).mp hx1 with hxT | ⟨m, hm, rfl⟩
  · exact hfree n hn x hxT
  · exact absurd ⟨hm, rfl, rfl, rfl⟩ hx2

inductive Op
  | reserve (ns : List Nat) (t : Nat) (a : List Nat) (p : Nat)
  | release (ns : List Nat) (t : Nat) (a : List Nat) (p : Nat)

def step (T : PM) : Op → PM
  | .reserve ns t a p => (reserveSpecific T ns t a p).1
  | .release ns t a p => release T ns t a p

/-- **Exclusivity over every history**: after any sequence of reservations and releases no two live reservations
    conflict (same protocol and port, either the wildcard or both the same address). -/
theorem exclusive (ops : List Op) : NoConflict (ops.foldl step []) := by
  refine List.foldlRecOn ops step List.Pairwise.nil fun T hT op _ => ?_
  cases op with
  | reserve ns t a p => exact (reserve_spec T ns t a p hT).2.1
  | release ns t a p => exact (release_spec T ns t a p hT).1

/-- wildcard then specific on the same port is refused, another port is fine -/
example : (reserveSpecific (reserveSpecific [] [2048] 6 [] 80).1 [2048] 6 [10, 0, 0, 1] 80).2 = false := by decide
example : (reserveSpecific (reserveSpecific [] [2048] 6 [] 80).1 [2048] 6 [10, 0, 0, 1] 81).2 = true := by decide

end C10
