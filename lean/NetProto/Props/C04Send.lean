import NetProto.Props.C01Send
/-! C04, sending direction, for every reachable state.  `Props/C04.lean` shows that what `sendData` transmits lies inside
the window the peer offers now; it leaves open the fast retransmission, which re-sends the first write-list entry as it
stands.  Here: ghost `Snd.gEdge` (never read by the model) is the rightmost window edge the peer has offered so far, as
a stream offset; invariant `W4`: every transmitted write-list entry with payload is at most `maxPayload` long and ends
at or before `gEdge`, the current edge is at or before `gEdge`, the fast-recovery mark lies between `sndUna` and
`sndNxt`; every handler keeps it and transmits nothing beyond `gEdge`.  `W4` is not inductive without C01Send's `SEB`
(sequence numbers against stream offsets), so the two are carried together.

`Cap`: transmitted entries are within the limits; it survives `Sub`, entries becoming pieces of themselves.  `FRI`: the
fast-recovery mark.  `E4 e` = `W4 e.snd` + `sndUna` is a 32-bit value; `P4` = `SE` and `E4` under the standing
assumptions.  `In4`: an emitted segment is within the limits.  `Res4`: `C01.Res` with the window part, but the accepted
stream may grow (the bound is asked of the state afterwards), so the queueing of a write satisfies it too. -/
namespace Props.C04
open Model.Tcp Props.TcpLemmas Props.C01 Props.TcpFrame Props.TcpShape

/-- every entry of `wl'` that has payload is a part of an entry of `wl` -/
def Sub (wl' wl : List WSeg) : Prop :=
  ∀ x ∈ wl', x.data ≠ [] → ∃ y ∈ wl, y.gOff ≤ x.gOff ∧ x.gOff + x.data.length ≤ y.gOff + y.data.length

theorem Sub.refl (wl : List WSeg) : Sub wl wl := fun x hx _ => ⟨x, hx, Nat.le_refl _, Nat.le_refl _⟩

theorem sub_ne {x y : WSeg} (hd : x.data ≠ []) (h1 : y.gOff ≤ x.gOff) (h2 : x.gOff + x.data.length ≤ y.gOff + y.data.length) :
    y.data ≠ [] := by
  intro h
  have hl : 0 < x.data.length := List.length_pos_iff.mpr hd
  rw [h, List.length_nil] at h2
  omega

theorem Sub.trans {a b c : List WSeg} (h1 : Sub a b) (h2 : Sub b c) : Sub a c := by
  intro x hx hd
  obtain ⟨y, hy, y1, y2⟩ := h1 x hx hd
  obtain ⟨z, hz, z1, z2⟩ := h2 y hy (sub_ne hd y1 y2)
  exact ⟨z, hz, Nat.le_trans z1 y1, Nat.le_trans y2 z2⟩

theorem sub_pieces (pre post ys : List WSeg) (x : WSeg)
    (h : ∀ z ∈ ys, z.data ≠ [] → x.gOff ≤ z.gOff ∧ z.gOff + z.data.length ≤ x.gOff + x.data.length) :
    Sub (pre ++ (ys ++ post)) (pre ++ x :: post) := by
  intro z hz hd
  rcases List.mem_append.mp hz with hz | hz
  · exact ⟨z, List.mem_append_left _ hz, Nat.le_refl _, Nat.le_refl _⟩
  · rcases List.mem_append.mp hz with hz | hz
    · exact ⟨x, by simp, h z hz hd⟩
    · exact ⟨z, List.mem_append_right _ (List.mem_cons_of_mem _ hz), Nat.le_refl _, Nat.le_refl _⟩

/-- transmitted payload entries (those below the frontier `n`) are at most `mp` long and end at or before `E` -/
def Cap (wl : List WSeg) (n mp E : Nat) : Prop :=
  ∀ x ∈ wl, x.gOff < n → x.data ≠ [] → x.data.length ≤ mp ∧ x.gOff + x.data.length ≤ E

theorem cap_sub {wl' wl : List WSeg} {n mp E E' : Nat} (hs : Sub wl' wl) (hc : Cap wl n mp E) (hE : E ≤ E') : Cap wl' n mp E' := by
  intro x hx hn hd
  obtain ⟨y, hy, y1, y2⟩ := hs x hx hd
  obtain ⟨c1, c2⟩ := hc y hy (by omega) (sub_ne hd y1 y2)
  exact ⟨by omega, Nat.le_trans y2 (Nat.le_trans c2 hE)⟩

theorem cap_append (wl : List WSeg) (y : WSeg) (n mp E : Nat) (h : Cap wl n mp E) (hy : n ≤ y.gOff ∨ y.data = []) :
    Cap (wl ++ [y]) n mp E := by
  intro x hx hn hd
  rcases List.mem_append.mp hx with hx | hx
  · exact h x hx hn hd
  · simp only [List.mem_singleton] at hx
    subst hx
    rcases hy with hy | hy
    · omega
    · exact absurd hy hd

/-- while fast recovery is active its `last` mark stands for a stream offset `k - 1` with `sndUna ≤ k ≤ sndNxt` -/
def FRI (s : Snd) : Prop := s.fr.active = true → ∃ k, s.fr.last = subS (addS s.gIss1 k) 1 ∧ s.gUna ≤ k ∧ k ≤ s.gNxt

structure W4 (s : Snd) : Prop where
  cap : Cap s.writeList s.gNxt s.maxPayload s.gEdge
  edge : s.gUna + s.sndWnd % M ≤ s.gEdge
  fri : FRI s

structure E4 (e : Ep) : Prop where
  w : W4 e.snd
  lim : e.snd.sndUna < M

theorem E4.congr {e e' : Ep} (h : SndSame e e') (w : E4 e) : E4 e' := by
  obtain ⟨m, hm⟩ := h.snd
  exact ⟨by rw [hm]; exact ⟨w.w.cap, w.w.edge, w.w.fri⟩, by rw [hm]; exact w.lim⟩

/-- a transmitted data segment is at most `mp` bytes long and ends at or before stream offset `E` -/
def In4 (iss1 mp E : Nat) (o : OutSeg) : Prop :=
  o.data ≠ [] → o.flags ≠ 0 → o.data.length ≤ mp ∧ ∃ off, o.seq = addS iss1 off ∧ off + o.data.length ≤ E

theorem in4_mono {iss1 mp E E' : Nat} {o : OutSeg} (h : In4 iss1 mp E o) (hE : E ≤ E') : In4 iss1 mp E' o := by
  intro a b
  obtain ⟨h1, off, h2, h3⟩ := h a b
  exact ⟨h1, off, h2, by omega⟩

theorem in4_ack (iss1 mp E : Nat) {o : OutSeg} (h : IsAck o) : In4 iss1 mp E o := fun hne => absurd h.out.1 hne

theorem emit_W4 {e0 : Ep} {pre post : List WSeg} {y : WSeg} (h : LI e0 pre.length) (hwl : e0.snd.writeList = pre ++ y :: post)
    (hf : y.flags ≠ 0) (l : Nat) (hl : l = xlen y) (w : W4 e0.snd)
    (hy : y.data ≠ [] → y.data.length ≤ e0.snd.maxPayload ∧ y.gOff + y.data.length ≤ e0.snd.gEdge) :
    W4 (emitAt e0 y (addS y.seq l)).1.snd ∧
    In4 e0.snd.gIss1 e0.snd.maxPayload e0.snd.gEdge (emitAt e0 y (addS y.seq l)).2 := by
  have hout := emitAt_out e0 y (addS y.seq l)
  obtain ⟨_, heq, _, _⟩ := emit_LI h hwl hf l hl
  refine ⟨?_, fun hne hfl => ?_⟩
  · rw [heq]
    refine ⟨fun x hx hn hd => ?_, w.edge, fun ha => (w.fri ha).imp fun k hk => ⟨hk.1, hk.2.1, Nat.le_trans hk.2.2 (Nat.le_max_left _ _)⟩⟩
    by_cases hlt : x.gOff < e0.snd.gNxt
    · exact w.cap x hx hlt hd
    · cases passed_eq h.core hwl (LI.gOff_le e0 pre post y h hwl) hx hlt (hl ▸ hn)
      exact hy hd
  · rw [hout.1] at hne ⊢
    rw [hout.2.1]
    rw [hout.2.2] at hfl
    exact ⟨(hy hne).1, y.gOff, (h.core.ents y (hwl ▸ List.mem_append_cons_self)).2 hfl, (hy hne).2⟩

/-- `h1` comes from the standing bound on the stream -/
theorem edge_arith (iss1 una unaOff w off len seqv : Nat)
    (hu : una % 4294967296 = addS iss1 unaOff) (hs : seqv = addS iss1 off)
    (hlt : lt seqv (addS una (w % M)) = true) (hlen : len ≤ sizeS seqv (addS una (w % M)))
    (h1 : off < 2147483648) : off + len ≤ unaOff + w % M := by
  rw [hs, ← addS_mod una, hu, addS_addS] at hlt hlen
  -- the edge stands for `unaOff + w % M`; an `off` beyond it would be more than 2^31 before it on the circle
  rcases Nat.lt_or_ge (unaOff + w % M) off with h | h
  · rw [lt_iff, sizeS_bwd _ _ _ h (by omega)] at hlt; omega
  · rw [sizeS_offsets _ _ _ h] at hlen
    exact Nat.add_le_of_le_sub' h (Nat.le_trans hlen (Nat.mod_le _ _))

theorem sendStep_W4 (e : Ep) (i : Nat) (h : LI e i) (w : W4 e.snd) :
    (∀ e', sendStep e i = .stop e' → W4 e'.snd) ∧
    (∀ e' o, sendStep e i = .sent e' o → W4 e'.snd ∧ In4 e.snd.gIss1 e.snd.maxPayload e.snd.gEdge o) := by
  refine sendStep_cases e i (A := fun e' => W4 e'.snd)
    (B := fun e' o => W4 e'.snd ∧ In4 e.snd.gIss1 e.snd.maxPayload e.snd.gEdge o) ⟨w.cap, w.edge, w.fri⟩ ?fin ?edge ?data
  case fin =>
    intro pre x post y r hwl hi _ hd0 hy hr
    subst hi hr
    obtain ⟨h', hf, hyd⟩ := prep_fin h hwl hd0 hy
    exact emit_W4 h' rfl hf 1 (xlen_nil hyd).symm
      ⟨cap_sub (hwl ▸ sub_pieces pre post [y] x fun z hz hd => absurd (by rw [List.mem_singleton.mp hz]; exact hyd) hd)
        w.cap (Nat.le_refl _), w.edge, w.fri⟩ (fun hd => absurd hyd hd)
  case edge =>
    intro pre x post y hwl hi hd0 hy _
    subst hi hy
    obtain ⟨g1, g2, _⟩ := entry_at h hwl
    refine ⟨cap_sub ?_ w.cap (Nat.le_refl _), w.edge, w.fri⟩
    rw [hwl]
    exact sub_pieces pre post [_] x fun z hz _ => by rw [List.mem_singleton.mp hz, g1, g2]; omega
  case data =>
    intro pre x post seg av y post' r hwl hi _ hd0 hseg hlt hav hy hpost hr
    subst hi hseg hr
    obtain ⟨g1, g2, g3, g4, hfo⟩ := entry_at h hwl
    have yg : y.gOff = x.gOff := by rw [hy]; exact g1
    have yl : y.data.length = min av x.data.length := by
      rw [hy]; show (List.take _ _).length = _; rw [List.length_take, g2]
    -- the piece sent ends inside the offered window
    have hedge := edge_arith e.snd.gIss1 e.snd.sndUna e.snd.gUna e.snd.sndWnd x.gOff y.data.length (x.assign e.snd.sndNxt).seq
      h.core.una ((g4.2 g3).trans (by rw [g1])) hlt (by rw [yl, hav]; exact Nat.le_trans (Nat.min_le_left _ _) (Nat.min_le_left _ _))
      (Nat.lt_of_le_of_lt (Nat.le_trans (LI.gOff_le e pre post x h hwl) h.core.ord.2) h.bnd)
    have hsub : Sub (pre ++ y :: post') (pre ++ x :: post) := by
      rcases hpost with ⟨_, rfl⟩ | ⟨hl, rfl⟩
      · exact sub_pieces pre _ [y] x fun z hz _ => by rw [List.mem_singleton.mp hz, yg, yl]; omega
      · refine sub_pieces pre _ [y, _] x fun z hz _ => ?_
        rcases List.mem_cons.mp hz with hz | hz
        · rw [hz, yg, yl]; omega
        · rw [List.mem_singleton.mp hz]
          show x.gOff ≤ (x.assign e.snd.sndNxt).gOff + av ∧ (x.assign e.snd.sndNxt).gOff + av + (List.drop av _).length ≤ _
          rw [g1, g2, List.length_drop]; rw [g2] at hl; omega
    have hav0 : 0 < av := hav ▸ Nat.lt_min.mpr ⟨((lt_iff _ _).mp hlt).1, h.mp⟩
    obtain ⟨h', hf, hne⟩ := prep_data h hwl hd0 hav0 rfl hy hpost
    exact emit_W4 h' rfl hf _ (xlen_data hne).symm ⟨cap_sub (hwl ▸ hsub) w.cap (Nat.le_refl _), w.edge, w.fri⟩
      (fun _ => ⟨by rw [yl, hav]; exact Nat.le_trans (Nat.min_le_left _ _) (Nat.min_le_right _ _),
        by rw [yg]; exact Nat.le_trans hedge w.edge⟩)

theorem sendData_W4 (e : Ep) (h : SEB e) (w : W4 e.snd) :
    W4 (sendData e).1.snd ∧ ∀ o ∈ (sendData e).2, In4 e.snd.gIss1 e.snd.maxPayload e.snd.gEdge o := by
  refine sendData_steps (R := fun _ r => W4 r.1.snd ∧ ∀ o ∈ r.2, In4 e.snd.gIss1 e.snd.maxPayload e.snd.gEdge o)
    (T := fun _ _ o => In4 e.snd.gIss1 e.snd.maxPayload e.snd.gEdge o)
    (I := fun x i => LI x i ∧ W4 x.snd ∧
      x.snd.gIss1 = e.snd.gIss1 ∧ x.snd.maxPayload = e.snd.maxPayload ∧ x.snd.gEdge = e.snd.gEdge)
    (fun h₁ h₂ => ⟨h₂.1, fun x hx => (List.mem_cons.mp hx).elim (fun hx => hx ▸ h₁) (h₂.2 x)⟩)
    (fun _ _ hI => ⟨⟨hI.2.1.cap, hI.2.1.edge, hI.2.1.fri⟩, fun _ ho => nomatch ho⟩) ?step
    (fun _ _ _ hR => ⟨⟨hR.1.cap, hR.1.edge, hR.1.fri⟩, hR.2⟩) e ⟨LI_of_SEB e h, w, rfl, rfl, rfl⟩
  intro x i ⟨hL, hw, hg⟩
  obtain ⟨stop, sent⟩ := sendStep_W4 x i hL hw
  refine ⟨fun e' he => ⟨stop e' he, fun _ ho => nomatch ho⟩, fun e' o he => ?_⟩
  obtain ⟨w', ho⟩ := sent e' o he
  rw [hg.1, hg.2.1, hg.2.2] at ho
  -- the limits at the next index are those at this one: sending changes none of them
  obtain ⟨_, _, _, _, _, _, _, _, _, hs⟩ := (sendStep_sendOnly x i).2 e' o he
  subst hs
  exact ⟨⟨((sendStep_LI x i hL).2 _ o he).1, w', hg⟩, ho⟩

theorem ackList_sub : ∀ (wl : List WSeg) (a : Nat), Sub (ackList wl a) wl
  | [], _ => Sub.refl _
  | seg :: rest, a => by
    rw [ackList]
    by_cases hz : a = 0
    · rw [if_pos hz]; exact Sub.refl _
    rw [if_neg hz]
    by_cases hg : seg.logicalLen > a
    · rw [if_pos hg]
      refine sub_pieces [] rest [_] seg fun z hz hd => ?_
      cases List.mem_singleton.mp hz
      have hl : 0 < (seg.data.drop a).length := List.length_pos_iff.mpr hd
      show seg.gOff ≤ seg.gOff + a ∧ seg.gOff + a + (seg.data.drop a).length ≤ _
      rw [List.length_drop] at hl ⊢
      omega
    · rw [if_neg hg]
      exact fun x hx hd => (ackList_sub rest _ x hx hd).imp fun y hy => ⟨List.mem_cons_of_mem _ hy.1, hy.2⟩

/-- an acknowledgement is in range when the offset it stands for is not beyond the frontier -/
theorem ack_before (s : Snd) (ack : Nat) (I : Core s) (hB : s.gW.length + 1 < 2147483648) :
    inRange ack s.sndUna (addS s.sndNxt 1) = true ↔ s.gUna + sizeS s.sndUna ack ≤ s.gNxt := by
  have := I.ord
  rw [inRange_iff, ← sizeS_mod _ (addS _ 1), I.una, I.nxt, addS_addS, sizeS_offsets _ _ _ (by omega)]
  omega

theorem range_imp (s : Snd) (ack : Nat) (I : Core s) (hB : s.gW.length + 1 < 2147483648)
    (hr : inRange (subS ack 1) s.sndUna s.sndNxt = true) : inRange ack s.sndUna (addS s.sndNxt 1) = true :=
  (ack_before s ack I hB).mpr (ack_range s ack I hr).2.1

theorem fr_arith (s : Snd) (ack k : Nat) (I : Core s) (hB : s.gW.length + 1 < 2147483648)
    (hl : s.fr.last = subS (addS s.gIss1 k) 1)
    (hr : inRange ack s.sndUna (addS s.sndNxt 1) = true) (hnl : lt s.fr.last ack = false) :
    s.gUna + sizeS s.sndUna ack < k := by
  have := I.ord
  rw [ack_before s ack I hB] at hr
  -- were `ack`'s offset at or beyond `k`, the mark, which stands for `k - 1`, would be less than 2^31 behind it
  refine Nat.lt_of_not_le fun hle => ?_
  rw [← Bool.not_eq_true, lt_iff, hl, sizeS_one_subS, ← sizeS_mod_right, addS_sizeS _ _ _ ack I.una, sizeS_offsets _ _ _ hle] at hnl
  omega

/-- what `checkDuplicateAck` hands on: a mark it leaves active is where the invariant wants it and ahead of an
acknowledgement of new data; a retransmission it asks for finds transmitted data the acknowledgement does not cover -/
structure CdaOk (s : Snd) (ack : Nat) (c : Snd × Bool) : Prop where
  mark : c.1.fr.active = true → ∃ k, c.1.fr.last = subS (addS s.gIss1 k) 1 ∧ s.gUna ≤ k ∧ k ≤ s.gNxt ∧
    (inRange (subS ack 1) s.sndUna s.sndNxt = true → s.gUna + sizeS s.sndUna ack < k)
  rex : c.2 = true → s.gUna < s.gNxt ∧ (inRange (subS ack 1) s.sndUna s.sndNxt = true → s.gUna + sizeS s.sndUna ack < s.gNxt)

theorem cda_ok (s : Snd) (ack ll wnd : Nat) (I : Core s) (hB : s.gW.length + 1 < 2147483648) (w : FRI s)
    (hlim : s.sndUna < M) : CdaOk s ack (checkDuplicateAck s ack ll wnd) := by
  have hc := cda_case s ack ll wnd
  generalize checkDuplicateAck s ack ll wnd = c at hc ⊢
  have no : ∀ {p : Prop}, false = true → p := fun h => nomatch h
  have ahead : s.fr.active = true → inRange ack s.sndUna (addS s.sndNxt 1) = true → lt s.fr.last ack = false →
      ∃ k, s.fr.last = subS (addS s.gIss1 k) 1 ∧ s.gUna ≤ k ∧ k ≤ s.gNxt ∧ s.gUna + sizeS s.sndUna ack < k := fun ha hr hl => by
    obtain ⟨k, k1, k2, k3⟩ := w ha
    exact ⟨k, k1, k2, k3, fr_arith s ack k I hB k1 hr hl⟩
  have idle : ∀ s' : Snd, s'.fr.active = false → CdaOk s ack (s', false) :=
    fun s' h => ⟨fun ha => no (h.symm.trans ha), no⟩
  cases hc with
  | outside ha hr =>
    obtain ⟨k, k1, k2, k3⟩ := w ha
    exact ⟨fun _ => ⟨k, k1, k2, k3, fun hadv => no (hr.symm.trans (range_imp s ack I hB hadv))⟩, no⟩
  | leave => exact idle _ rfl
  | other ha hr hl =>
    obtain ⟨k, k1, k2, k3, k4⟩ := ahead ha hr hl
    exact ⟨fun _ => ⟨k, k1, k2, k3, fun _ => k4⟩, no⟩
  | inflate ha hr hl =>
    obtain ⟨k, k1, k2, k3, k4⟩ := ahead ha hr hl
    refine ⟨fun _ => ⟨k, ?_, k2, k3, fun _ => k4⟩, no⟩
    split <;> exact k1
  | partialAck ha hr hl =>
    obtain ⟨k, k1, k2, k3, k4⟩ := ahead ha hr hl
    exact ⟨fun _ => ⟨k, k1, k2, k3, fun _ => k4⟩, fun _ => ⟨Nat.lt_of_lt_of_le (Nat.lt_of_le_of_lt (Nat.le_add_right _ _) k4) k3, fun _ => Nat.lt_of_lt_of_le k4 k3⟩⟩
  | reset ha => exact idle _ ha
  | count ha => exact idle _ ha
  | stale ha => exact idle _ ha
  | enter _ h1 _ _ h4 =>
    -- the third duplicate: `ack = sndUna` covers nothing new, and `ack ≠ sndNxt` says data is in flight
    subst h1
    have hno := dupack_not_new s.sndUna s.sndNxt
    have hlt : s.gUna < s.gNxt := by
      refine Nat.lt_of_le_of_ne I.ord.1 fun heq => h4 ?_
      rw [I.nxt, ← heq, ← I.una]
      exact (Nat.mod_eq_of_lt hlim).symm
    exact ⟨fun _ => ⟨s.gNxt, by show subS s.sndNxt 1 = _; rw [I.nxt], I.ord.1, Nat.le_refl _, fun hr => no (hno.symm.trans hr)⟩,
      fun _ => ⟨hlt, fun hr => no (hno.symm.trans hr)⟩⟩

/-- `P`: the sender as the duplicate-ACK bookkeeping (`b`: retransmit?) and the window update have left it -/
theorem ackStage_W4 (P : Snd) (ack : Nat) (b : Bool) (cap : Cap P.writeList P.gNxt P.maxPayload P.gEdge)
    (edge : P.gUna + P.sndWnd % M ≤ P.gEdge) (C : CdaOk P ack (P, b)) (hlim : P.sndUna < M) (hack : ack < M) (A : Snd)
    (hA : A = if inRange (subS ack 1) P.sndUna P.sndNxt = true then ackAdvance P ack else P) :
    W4 A ∧ A.sndUna < M ∧ P.gEdge ≤ A.gEdge ∧ (b = true → A.gUna < A.gNxt) := by
  by_cases hr : inRange (subS ack 1) P.sndUna P.sndNxt = true
  · obtain ⟨_, _, _, hl⟩ := ackAdvance_list P ack
    rw [if_pos hr, hl] at hA
    subst hA
    refine ⟨⟨cap_sub (ackList_sub _ _) cap (Nat.le_max_left _ _), Nat.le_max_right _ _, fun ha => ?_⟩, hack,
      Nat.le_max_left _ _, fun hb => (C.rex hb).2 hr⟩
    obtain ⟨k, k1, _, k3, k4⟩ := C.mark ha
    exact ⟨k, k1, Nat.le_of_lt (k4 hr), k3⟩
  · rw [if_neg hr] at hA
    subst hA
    refine ⟨⟨cap, edge, fun ha => ?_⟩, hlim, Nat.le_refl _, fun hb => (C.rex hb).1⟩
    obtain ⟨k, k1, k2, k3, _⟩ := C.mark ha
    exact ⟨k, k1, k2, k3⟩

/-- the fast retransmission re-sends the first entry as it stands: it lies below the frontier, so the invariant bounds it -/
theorem resend_W4 (e : Ep) (b : Bool) (I : Core e.snd) (w : E4 e) (hlt : b = true → e.snd.gUna < e.snd.gNxt) :
    E4 (if b = true then resendSegment e else (e, [])).1 ∧
    (if b = true then resendSegment e else (e, [])).1.snd.gEdge = e.snd.gEdge ∧
    ∀ o ∈ (if b = true then resendSegment e else (e, [])).2, In4 e.snd.gIss1 e.snd.maxPayload e.snd.gEdge o := by
  by_cases hb : b = true
  · rw [if_pos hb]
    have hs := resendSegment_sndSame e
    refine ⟨E4.congr hs w, hs.congr (·.gEdge) fun _ _ => rfl, fun o ho hd hfl => ?_⟩
    obtain ⟨x, hx, xd, xq, xf⟩ := resendSegment_out e o ho
    have hm : x ∈ e.snd.writeList := List.mem_of_mem_head? hx
    obtain ⟨_, hl⟩ := List.head?_eq_some_iff.mp hx
    have hoff := I.head hl
    rw [xd] at hd ⊢
    rw [xq]
    rw [xf] at hfl
    have := w.w.cap x hm (by have := hlt hb; omega) hd
    exact ⟨this.1, x.gOff, (I.ents x hm).2 hfl, this.2⟩
  · rw [if_neg hb]
    exact ⟨w, rfl, fun _ ho => nomatch ho⟩

theorem sndPrepare_W4 (e : Ep) (seg : InSeg) (wnd : Nat) (ts : Model.Header.TCPOpts) (H : SEB e) (w : E4 e)
    (hack : seg.ack < M) :
    E4 (sndPrepare e seg wnd ts).1 ∧ e.snd.gEdge ≤ (sndPrepare e seg wnd ts).1.snd.gEdge ∧
    ∀ o ∈ (sndPrepare e seg wnd ts).2, In4 e.snd.gIss1 e.snd.maxPayload (sndPrepare e seg wnd ts).1.snd.gEdge o := by
  obtain ⟨r, bu, c, T, hc, hT, h⟩ := sndPrepare_eq e seg wnd ts
  have C : CdaOk e.snd seg.ack c := hc ▸ cda_ok e.snd seg.ack seg.logicalLen wnd H.se.inv.core H.bnd w.w.fri w.lim
  obtain ⟨cw, ca, sst, ssi, fr, da, gd, hs⟩ : CongSame e.snd c.1 := hc ▸ checkDuplicateAck_same e.snd seg.ack seg.logicalLen wnd
  obtain ⟨c1, c2⟩ := c
  dsimp only at hs hT h
  have S := ackStage_res e (wndUpdate c1 wnd) seg.ack r bu (by rw [hs]; rfl) (by rw [hs]; rfl) (by rw [hs]; rfl)
  rw [← hT] at S
  subst hs
  rw [h]
  obtain ⟨t1, t2, t3, t4⟩ := ackStage_W4
    (wndUpdate { e.snd with cwnd := cw, caAck := ca, ssthresh := sst, ssInf := ssi, fr := fr, dupAck := da, gDup := gd } wnd)
    seg.ack c2 (cap_sub (Sub.refl _) w.w.cap (Nat.le_max_left _ _)) (Nat.le_max_right _ _)
    ⟨C.mark, C.rex⟩ w.lim hack T hT
  obtain ⟨s1, s2, _⟩ := S.2.2 H
  obtain ⟨x1, x2, x3⟩ := resend_W4 { e with recentTS := r, sndBufUsed := bu, snd := T } c2 s1.se.inv.core ⟨t1, t2⟩ t4
  have s3 : T.maxPayload = e.snd.maxPayload := S.1
  refine ⟨x1, ?_, fun o ho => ?_⟩
  · rw [x2]; exact Nat.le_trans (Nat.le_max_left _ _) t3
  · rw [x2]
    exact s2 ▸ s3 ▸ x3 o ho

/-- the acknowledgement number is a 32-bit value, as on the wire.  Needed, with `E4.lim`, in one place: at the third
duplicate `ack = sndUna ≠ sndNxt` must give `gUna < gNxt` (`cda_ok`, case `enter`), and `Core.una` knows `sndUna` only
modulo 2^32. -/
def AckOk (s : InSeg) : Prop := s.ack < M

def P4 (e : Ep) : Prop := e.snd.gW.length + 1 < 2147483648 ∧ 0 < e.snd.maxPayload → SE e ∧ E4 e

/-- Whatever the state, the segment size stays and the accepted stream only grows; from the invariants, if the stream
is still shorter than 2^31 bytes afterwards, they hold afterwards, the rightmost edge has not moved left, and what is
transmitted is within the limits as they stand afterwards. -/
def Res4 (e : Ep) (r : Ep × List OutSeg) : Prop :=
  r.1.snd.maxPayload = e.snd.maxPayload ∧ (∃ V, r.1.snd.gW = e.snd.gW ++ V) ∧
  (SEB e → E4 e → r.1.snd.gW.length + 1 < 2147483648 →
    SEB r.1 ∧ E4 r.1 ∧ r.1.snd.gIss1 = e.snd.gIss1 ∧ e.snd.gEdge ≤ r.1.snd.gEdge ∧
    ∀ o ∈ r.2, In4 e.snd.gIss1 e.snd.maxPayload r.1.snd.gEdge o)

theorem Res4.of_res {e : Ep} {r : Ep × List OutSeg} (h : Res e r)
    (hw : SEB e → E4 e → E4 r.1 ∧ e.snd.gEdge ≤ r.1.snd.gEdge ∧ ∀ o ∈ r.2, In4 e.snd.gIss1 e.snd.maxPayload r.1.snd.gEdge o) :
    Res4 e r :=
  ⟨h.1, ⟨[], by rw [h.2.1, List.append_nil]⟩, fun H w _ => ⟨(h.2.2 H).1, (hw H w).1, (h.2.2 H).2.1, (hw H w).2⟩⟩

theorem Res4.of_sndSame {e e' : Ep} {out : List OutSeg} (h : SndSame e e') (ho : ∀ o ∈ out, IsAck o) : Res4 e (e', out) :=
  .of_res (.of_sndSame h fun _ o ho' => good_ack _ _ (ho o ho')) fun _ w =>
    ⟨w.congr h, Nat.le_of_eq (h.congr (·.gEdge) fun _ _ => rfl).symm, fun o ho' => in4_ack _ _ _ (ho o ho')⟩

theorem res4_steps : Steps Res4 where
  nil := fun e => .of_sndSame (.refl e) fun _ ho => nomatch ho
  seq := by
    intro e e₁ o₁ r h₁ h₂
    obtain ⟨m₁, ⟨V₁, v₁⟩, i₁⟩ := h₁
    obtain ⟨m₂, ⟨V₂, v₂⟩, i₂⟩ := h₂
    refine ⟨m₂.trans m₁, ⟨V₁ ++ V₂, by rw [v₂, v₁, List.append_assoc]⟩, fun H w hb => ?_⟩
    have hb₁ : e₁.snd.gW.length + 1 < 2147483648 := by rw [v₂, List.length_append] at hb; omega
    obtain ⟨s₁, w₁, g₁, d₁, k₁⟩ := i₁ H w hb₁
    obtain ⟨s₂, w₂, g₂, d₂, k₂⟩ := i₂ s₁ w₁ hb
    exact ⟨s₂, w₂, g₂.trans g₁, Nat.le_trans d₁ d₂, fun o ho =>
      (List.mem_append.mp ho).elim (fun ho => in4_mono (k₁ o ho) d₂) fun ho => g₁ ▸ m₁ ▸ k₂ o ho⟩

theorem sendData_res4 (e : Ep) : Res4 e (sendData e) := by
  refine .of_res (sendData_res e) fun H w => ?_
  obtain ⟨s1, s2⟩ := sendData_W4 e H w.w
  obtain ⟨_, _, _, _, _, _, _, _, _, hs⟩ := sendData_sendOnly e
  rw [hs] at s1 ⊢
  exact ⟨⟨s1, w.lim⟩, Nat.le_refl _, s2⟩

theorem sndHandleSegment_res4 (e : Ep) (seg : InSeg) (wnd : Nat) (ts : Model.Header.TCPOpts) (hack : AckOk seg) :
    Res4 e (sndHandleSegment e seg wnd ts) :=
  res4_steps.seq (.of_res (sndPrepare_res e seg wnd ts) fun H w => sndPrepare_W4 e seg wnd ts H w hack) (sendData_res4 _)

theorem rtoState_res4 (e : Ep) : Res4 e ({ e with snd := rtoState e.snd }, []) := by
  refine .of_res (rtoState_res e) fun _ w => ?_
  obtain ⟨_, fr, _, ha, hr⟩ := rtoState_same e.snd
  rw [hr]
  exact ⟨⟨⟨w.w.cap, w.w.edge, fun h => nomatch ha.symm.trans h⟩, w.lim⟩, Nat.le_refl _, fun _ ho => nomatch ho⟩

theorem popRead_res4 (e : Ep) (v : List Nat) (rest : List (List Nat)) (_ : e.rcvList = v :: rest) : Res4 e (popRead e v rest, []) :=
  .of_sndSame (.of_eq rfl rfl) fun _ ho => nomatch ho

theorem res4_leaves : SegLeaves AckOk Res4 where
  toSteps := res4_steps
  send := sendData_res4
  ack := fun e => .of_sndSame (sendAck_sndSame e) fun _ ho => ⟨e, List.mem_singleton.mp ho⟩
  close := fun e => .of_sndSame (closeIfDone_sndSame e) fun _ ho => nomatch ho
  fin := fun e _ hc => .of_res (queueFin_res e hc) fun _ w =>
    ⟨⟨⟨cap_append _ _ _ _ _ w.w.cap (.inr rfl), w.w.edge, w.w.fri⟩, w.lim⟩, Nat.le_refl _, fun _ ho => nomatch ho⟩
  shut := fun e => .of_res (shut_res e) fun _ w =>
    ⟨⟨⟨w.w.cap, w.w.edge, w.w.fri⟩, w.lim⟩, Nat.le_refl _, fun _ ho => nomatch ho⟩
  rto := fun e _ _ => res4_steps.seq' (rtoState_res4 e) (sendData_res4 _) (List.nil_append _).symm
  rcv := fun e seg _ => .of_sndSame (rcvHandleSegment_rcvOnly e seg).snd (rcvHandleSegment_rcvOnly e seg).out
  snd := sndHandleSegment_res4
  reset := fun _ => .of_sndSame (.of_eq rfl rfl) fun _ ho => nomatch ho

theorem queueWrite_res4 (e : Ep) (v : List Nat) (_ : e.state = .connected) (hc : e.sndClosed = false) (hv : v ≠ [])
    (_ : e.sndBufUsed + v.length ≤ e.sndBufSize) : Res4 e (queueWrite e v, []) :=
  ⟨rfl, ⟨v, rfl⟩, fun H w hb =>
    ⟨⟨queueWrite_SE e v hv hc H.se, hb, H.mp⟩,
     ⟨⟨cap_append _ _ _ _ _ w.w.cap (.inl (H.se.nofin hc).2), w.w.edge, w.w.fri⟩, w.lim⟩, rfl, Nat.le_refl _, fun _ ho => nomatch ho⟩⟩

theorem Res4.keeps {e : Ep} {r : Ep × List OutSeg} (h : Res4 e r) (hP : P4 e) : P4 r.1 := by
  intro hr
  obtain ⟨m, ⟨V, v⟩, i⟩ := h
  have hb : e.snd.gW.length + 1 < 2147483648 := by have := hr.1; rw [v, List.length_append] at this; omega
  obtain ⟨p1, p2⟩ := hP ⟨hb, m ▸ hr.2⟩
  obtain ⟨s, w, _⟩ := i ⟨p1, hb, m ▸ hr.2⟩ p2 hr.1
  exact ⟨s.se, w⟩

theorem E4_fresh (e : Ep) (h1 : e.snd.writeList = []) (h2 : e.snd.gUna + e.snd.sndWnd % M ≤ e.snd.gEdge)
    (h3 : e.snd.fr.active = false) (h4 : e.snd.sndUna < M) : E4 e :=
  ⟨⟨fun x hx => by rw [h1] at hx; simp at hx, h2, fun h => by rw [h3] at h; cases h⟩, h4⟩

open Props.TcpReachQ in
theorem window_inv : EpInvQ AckOk P4 where
  fresh := by
    intro iss irs sndWnd mss sws rcvWnd rws mtu rb sb ts rts sp hres
    exact ⟨send_inv.fresh iss irs sndWnd mss sws rcvWnd rws mtu rb sb ts rts sp hres,
      E4_fresh _ rfl (Nat.le_of_eq (Nat.zero_add _)) rfl (Nat.mod_lt _ (by decide))⟩
  dflt := fun _ => ⟨SE_fresh _ rfl rfl rfl rfl (by decide) (by decide), E4_fresh _ rfl (by decide) rfl (by decide)⟩
  failed := fun _ _ => ⟨SE_fresh _ rfl rfl rfl rfl (by show (0 : Nat) % 4294967296 = addS 0 0; decide) (by show (0 : Nat) = addS 0 0; decide),
    E4_fresh _ rfl (by show (0 : Nat) + 0 % M ≤ 0; decide) rfl (by show (0 : Nat) < M; decide)⟩
  segs := fun e l hl => (res4_leaves.handleSegments e l hl).keeps
  write := fun e d => (res4_leaves.appWrite queueWrite_res4 e d).keeps
  read := fun e => (res4_leaves.appRead popRead_res4 e).keeps
  shut := fun e => (res4_leaves.appShutdownWrite e).keeps
  timer := fun e => (res4_leaves.timerEvent e).keeps

open Props.TcpReachQ in
/-- **C04 (sending direction, reachability)**: in every state reachable by segments with 32-bit acknowledgement numbers,
on every connection whose stream is shorter than 2^31 bytes and whose segment size is not zero (`newEp` with a peer MSS
of 0 has `maxPayload = 0`; of such a connection nothing is said): every transmitted entry with payload is at most
`maxPayload` long and ends at or before the rightmost window edge the peer has offered so far -/
theorem sender_window_reachable (c : Cfg) (ops : List Op) (hops : ∀ op ∈ ops, OpOk AckOk op) :
    StAllQ AckOk P4 (run c ops).1 :=
  run_allQ window_inv c ops hops

/-- **C04 (sending direction, emissions)**: from any state satisfying the invariants, whatever a handler transmits,
the fast retransmission included, is at most `maxPayload` bytes long (`C04.newEp_maxPayload`) and ends at or before the
rightmost window edge the peer has offered up to the end of that handler -/
theorem emitted_within_offered_window (e : Ep) (h : SEB e) (w : E4 e) :
    (∀ l, (∀ s ∈ l, AckOk s) → ∀ o ∈ (handleSegments e l).2, In4 e.snd.gIss1 e.snd.maxPayload (handleSegments e l).1.snd.gEdge o) ∧
    (∀ o ∈ (timerEvent e).2, In4 e.snd.gIss1 e.snd.maxPayload (timerEvent e).1.snd.gEdge o) ∧
    (∀ o ∈ (appShutdownWrite e).2, In4 e.snd.gIss1 e.snd.maxPayload (appShutdownWrite e).1.snd.gEdge o) ∧
    (∀ o ∈ (appRead e).2.2, In4 e.snd.gIss1 e.snd.maxPayload (appRead e).1.snd.gEdge o) ∧
    (∀ d, (appWrite e d).1.snd.gW.length + 1 < 2147483648 →
      ∀ o ∈ (appWrite e d).2.2, In4 e.snd.gIss1 e.snd.maxPayload (appWrite e d).1.snd.gEdge o) :=
  -- only `Write` lengthens the accepted stream
  have out : ∀ {r : Ep × List OutSeg}, Res4 e r → r.1.snd.gW.length + 1 < 2147483648 →
      ∀ o ∈ r.2, In4 e.snd.gIss1 e.snd.maxPayload r.1.snd.gEdge o := fun R hb => (R.2.2 h w hb).2.2.2.2
  ⟨fun l hl => out (res4_leaves.handleSegments e l hl) ((res_leaves.handleSegments e l fun _ _ => trivial).2.1 ▸ h.bnd),
   out (res4_leaves.timerEvent e) ((res_leaves.timerEvent e).2.1 ▸ h.bnd),
   out (res4_leaves.appShutdownWrite e) ((res_leaves.appShutdownWrite e).2.1 ▸ h.bnd),
   out (res4_leaves.appRead popRead_res4 e) ((res_leaves.appRead popRead_res e).2.1 ▸ h.bnd), fun d hb => out (res4_leaves.appWrite queueWrite_res4 e d) hb⟩

/-- what the ghost edge is: `gEdge` changes only in `sndPrepare`, where it becomes the larger of its old value and the edge
the segment offers, `sndUna + window` after the acknowledgement has been applied: the running maximum of the offered edges -/
theorem sndPrepare_edge (e : Ep) (seg : InSeg) (wnd : Nat) (ts : Model.Header.TCPOpts) :
    (sndPrepare e seg wnd ts).1.snd.sndWnd = wnd ∧
    (sndPrepare e seg wnd ts).1.snd.gEdge = max e.snd.gEdge ((sndPrepare e seg wnd ts).1.snd.gUna + wnd % M) := by
  have stage : ∀ (s T : Snd), T = (if inRange (subS seg.ack 1) (wndUpdate s wnd).sndUna (wndUpdate s wnd).sndNxt = true
      then ackAdvance (wndUpdate s wnd) seg.ack else wndUpdate s wnd) →
      T.sndWnd = wnd ∧ T.gEdge = max s.gEdge (T.gUna + wnd % M) := by
    intro s T hT
    by_cases hr : inRange (subS seg.ack 1) (wndUpdate s wnd).sndUna (wndUpdate s wnd).sndNxt = true
    · obtain ⟨_, _, _, hl⟩ := ackAdvance_list (wndUpdate s wnd) seg.ack
      rw [if_pos hr, hl] at hT
      subst hT
      refine ⟨rfl, ?_⟩
      show max (max s.gEdge (s.gUna + wnd % M)) (s.gUna + sizeS s.sndUna seg.ack + wnd % M) = max s.gEdge (s.gUna + sizeS s.sndUna seg.ack + wnd % M)
      omega
    · rw [if_neg hr] at hT
      subst hT
      exact ⟨rfl, rfl⟩
  obtain ⟨r, bu, c, T, hc, hT, h⟩ := sndPrepare_eq e seg wnd ts
  obtain ⟨_, _, _, _, _, _, _, hs⟩ : CongSame e.snd c.1 := hc ▸ checkDuplicateAck_same e.snd seg.ack seg.logicalLen wnd
  obtain ⟨t1, t2⟩ := stage c.1 T hT
  rw [show c.1.gEdge = e.snd.gEdge by rw [hs]] at t2
  rw [h]
  by_cases hb : c.2 = true
  · have hs := resendSegment_sndSame { e with recentTS := r, sndBufUsed := bu, snd := T }
    rw [if_pos hb, hs.congr (·.sndWnd) fun _ _ => rfl, hs.congr (·.gEdge) fun _ _ => rfl, hs.congr (·.gUna) fun _ _ => rfl]
    exact ⟨t1, t2⟩
  · rw [if_neg hb]
    exact ⟨t1, t2⟩

/-- non-vacuity: a fresh connection (peer window 5) meets the invariants; a `Write` of eight bytes transmits exactly
the five the window admits, and they end at the offered edge -/
example :
    let e := newEp 1000 5 5 1460 0 65535 0 1500 65536 65536 false 0 false
    SEB e ∧ E4 e ∧ e.snd.gEdge = 5 ∧
      ((appWrite e [1, 2, 3, 4, 5, 6, 7, 8]).2.2.map (fun o => (o.seq, o.data))) = [(1001, [1, 2, 3, 4, 5])] :=
  ⟨⟨SE_fresh _ rfl rfl rfl rfl (by decide) (by decide), by decide, by decide⟩,
   E4_fresh _ rfl (by decide) rfl (by decide), rfl, by decide⟩

end Props.C04
