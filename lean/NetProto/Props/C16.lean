import NetProto.Model.Buffer
/-!
# C16 — buffer views behave like the byte string they represent

Each operation of a vectorised view against `Model.Buffer.Spec`'s on its bytes, under `Inv` (size field = number of
bytes); then operation sequences, and the heap model for what `Clone` and a struct copy share.
`total` is the model's `sumLen` by recursion, `bytesOf` the body of `VV.bytes`, on the bare list the loops recurse on.
-/
namespace C16
open Model.Buffer

def total : List View → Int
  | [] => 0
  | v :: t => v.len + total t

def bytesOf (vs : List View) : List Nat := vs.flatMap (·.data)

def Inv (vv : VV) : Prop := vv.size = total vv.views

theorem bytesOf_cons (v : View) (t : List View) : bytesOf (v :: t) = v.data ++ bytesOf t := rfl

theorem bytes_length (vs : List View) : ((bytesOf vs).length : Int) = total vs := by
  induction vs with
  | nil => rfl
  | cons v t ih => rw [bytesOf_cons, List.length_append, total, ← ih, View.len]; omega

theorem Inv_iff {vv : VV} : Inv vv ↔ vv.size = (vv.bytes.length : Int) := by
  rw [Inv, ← bytes_length]; rfl

/-- The model counts down in integers (`c - v.len`), `List.drop` in naturals: `Int.toNat_sub'`. The second part (size
field minus bytes present is kept) needs no invariant on `s`. -/
theorem trimViews_spec (vs : List View) (c s : Int) :
    bytesOf (trimViews vs c) = (bytesOf vs).drop c.toNat ∧
    trimSize vs c s - total (trimViews vs c) = s - total vs := by
  -- branches in order: no view left, `c ≤ 0`, cut inside `v`, `v` goes whole
  fun_induction trimViews vs c generalizing s with
  | case1 => simp [trimSize, bytesOf]
  | case2 v t c h0 => simp [trimSize, h0, Int.toNat_of_nonpos h0]
  | case3 v t c h0 h1 =>
    rw [trimSize, if_neg h0, if_pos h1]
    simp only [bytesOf_cons, total, View.len, List.length_drop] at *
    exact ⟨(List.drop_append_of_le_length (by omega)).symm, by omega⟩
  | case4 v t c h0 h1 ih =>
    obtain ⟨ih1, ih2⟩ := ih (s - v.len)
    rw [trimSize, if_neg h0, if_neg h1, ih1]
    simp only [bytesOf_cons, total, View.len] at *
    rw [List.drop_append, Int.toNat_sub', List.drop_eq_nil_of_le (as := v.data) (by omega)]
    exact ⟨rfl, by omega⟩

/-- `TrimFront(count)` = dropping `count` bytes of the byte string, for every count, negative or beyond the size -/
theorem trim_refines (vv : VV) (count : Int) (h : Inv vv) :
    (vv.trimFront count).bytes = Spec.trimFront vv.bytes count ∧ Inv (vv.trimFront count) := by
  obtain ⟨e, hs⟩ := trimViews_spec vv.views count vv.size
  exact ⟨e, by simp only [Inv, VV.trimFront] at h ⊢; omega⟩

/-- for every `l`, negative or beyond the bytes present -/
theorem capAux_bytes (vs : List View) (l : Int) : bytesOf (capAux vs l) = (bytesOf vs).take l.toNat := by
  -- branches in order: no view left, cut at 0, cut inside `v`, `v` kept whole
  fun_induction capAux vs l with
  | case1 => exact List.take_nil.symm
  | case2 => rfl
  | case3 v t l hv _ => -- `v`'s spare capacity is never reached
    have hle : l.toNat ≤ v.data.length := by simp only [View.len] at hv; omega
    rw [bytesOf_cons, bytesOf_cons, List.take_append_of_le_length hle, List.take_append_of_le_length hle]
    exact List.append_nil _
  | case4 v t l hv ih =>
    simp only [View.len] at *
    rw [bytesOf_cons, bytesOf_cons, ih, List.take_append, Int.toNat_sub', List.take_of_length_le (l := v.data) (by omega)]

/-- `CapLength(length)` = taking `length` bytes (negative → 0, beyond → unchanged) -/
theorem cap_refines (vv : VV) (length : Int) (h : Inv vv) :
    (vv.capLength length).bytes = Spec.capLength vv.bytes length ∧ Inv (vv.capLength length) := by
  have hs := Inv_iff.1 h
  simp only [VV.capLength, Spec.capLength]
  -- a negative length is 0, also as a number of bytes
  have hl : (if length < 0 then 0 else length).toNat = length.toNat ∧ 0 ≤ (if length < 0 then 0 else length) := by
    split <;> omega
  generalize (if length < 0 then 0 else length) = l at hl ⊢
  rw [← hl.1]
  split
  · exact ⟨(List.take_of_length_le (by omega)).symm, h⟩
  · have e : VV.bytes ⟨capAux vv.views l, l⟩ = vv.bytes.take l.toNat := capAux_bytes vv.views l
    refine ⟨e, Inv_iff.2 (?_ : l = _)⟩
    rw [e, List.length_take]
    omega

theorem removeFirst_refines (vv : VV) (h : Inv vv) :
    (vv.removeFirst).bytes = Spec.removeFirst vv.bytes ((vv.first.map (·.data.length)).getD 0) ∧
    Inv (vv.removeFirst) := by
  obtain ⟨_ | ⟨v, t⟩, size⟩ := vv
  · exact ⟨rfl, h⟩
  · exact ⟨(List.drop_left (l₁ := v.data)).symm, by simp only [Inv, VV.removeFirst, total] at h ⊢; omega⟩

inductive Op
  | trim (n : Int) | cap (n : Int) | removeFirst
deriving Repr, DecidableEq

def applyOp (vv : VV) : Op → VV
  | .trim n => vv.trimFront n
  | .cap n => vv.capLength n
  | .removeFirst => vv.removeFirst

theorem applyOp_inv (vv : VV) (op : Op) (h : Inv vv) : Inv (applyOp vv op) := by
  cases op with
  | trim n => exact (trim_refines vv n h).2
  | cap n => exact (cap_refines vv n h).2
  | removeFirst => exact (removeFirst_refines vv h).2

/-- **Every operation sequence** keeps the invariant: `Size()` is the number of bytes of `ToView()`. -/
theorem ops_inv (vv : VV) (ops : List Op) (h : Inv vv) :
    Inv (ops.foldl applyOp vv) ∧ (ops.foldl applyOp vv).size = ((ops.foldl applyOp vv).toView.length : Int) := by
  have hI : Inv (ops.foldl applyOp vv) := List.foldlRecOn ops applyOp h fun vv h op _ => applyOp_inv vv op h
  exact ⟨hI, Inv_iff.1 hI⟩

/-- `RemoveFirst` drops a chunk, whatever it holds: it looks at the chunking -/
def Op.oblivious : Op → Bool
  | .removeFirst => false
  | _ => true

def Op.onBytes : Op → List Nat → List Nat
  | .trim n, b => Spec.trimFront b n
  | .cap n, b => Spec.capLength b n
  | .removeFirst, b => b

theorem applyOp_bytes (vv : VV) (op : Op) (h : Inv vv) (ho : op.oblivious = true) :
    (applyOp vv op).bytes = op.onBytes vv.bytes := by
  cases op with
  | trim n => exact (trim_refines vv n h).1
  | cap n => exact (cap_refines vv n h).1
  | removeFirst => cases ho

theorem foldl_bytes (ops : List Op) (vv : VV) (h : Inv vv) (hops : ∀ o ∈ ops, o.oblivious = true) :
    (ops.foldl applyOp vv).bytes = ops.foldl (fun b o => o.onBytes b) vv.bytes := by
  induction ops generalizing vv with
  | nil => rfl
  | cons op t ih =>
    rw [List.foldl_cons, List.foldl_cons, ih _ (applyOp_inv vv op h) fun o ho => hops o (List.mem_cons_of_mem _ ho),
      applyOp_bytes vv op h (hops op (List.mem_cons_self ..))]

/-- **Chunking independence**: views with the same bytes, however chunked, yield the same bytes and size after any
    sequence of TrimFront / CapLength. -/
theorem chunking_independent (a b : VV) (ops : List Op) (ha : Inv a) (hb : Inv b) (hab : a.bytes = b.bytes)
    (hops : ∀ o ∈ ops, o.oblivious = true) :
    (ops.foldl applyOp a).bytes = (ops.foldl applyOp b).bytes ∧
    (ops.foldl applyOp a).size = (ops.foldl applyOp b).size := by
  have e : (ops.foldl applyOp a).bytes = (ops.foldl applyOp b).bytes := by
    rw [foldl_bytes ops a ha hops, foldl_bytes ops b hb hops, hab]
  exact ⟨e, by rw [Inv_iff.1 (ops_inv a ops ha).1, Inv_iff.1 (ops_inv b ops hb).1, e]⟩

inductive HOp
  | trim (i : Nat) (n : Int) | cap (i : Nat) (n : Int) | removeFirst (i : Nat) | clone (i : Nat) | copy (i : Nat)

def HOp.target : HOp → Nat
  | .trim i _ | .cap i _ | .removeFirst i | .clone i | .copy i => i

def hstep (h : Heap) : HOp → Heap
  | .trim i n => h.trimFront i n
  | .cap i n => h.capLength i n
  | .removeFirst i => h.removeFirst i
  | .clone i => h.clone i
  | .copy i => h.copy i

theorem hstep_frame (h : Heap) (op : HOp) (a : Nat) (ha : a < h.arrays.length)
    (hne : ∀ o, h.objs[op.target]? = some o → o.arr ≠ a) : (hstep h op).arrays[a]? = h.arrays[a]? := by
  cases op with
  | trim i n | cap i n =>
    simp only [hstep, HOp.target, Heap.trimFront, Heap.capLength] at hne ⊢
    split
    · rfl
    · next o ho => exact List.getElem?_set_ne (hne o ho)
  | removeFirst i =>
    simp only [hstep, Heap.removeFirst]
    split
    · rfl
    · split <;> rfl
  | clone i =>
    simp only [hstep, Heap.clone]
    split
    · rfl
    · exact List.getElem?_append_left ha
  | copy i =>
    simp only [hstep, Heap.copy]
    split <;> rfl

/-- **A clone is unaffected by later operations** on anything that does not share its header array.  The hypothesis
speaks of the run's own heaps: `pre` has been applied when `op` is. -/
theorem clone_independent_run (h : Heap) (c : Obj) (ops : List HOp) (hc : c.arr < h.arrays.length)
    (hdisj : ∀ pre op post, ops = pre ++ op :: post →
      ∀ o, (pre.foldl hstep h).objs[op.target]? = some o → o.arr ≠ c.arr) :
    (ops.foldl hstep h).vvOf c = h.vvOf c := by
  -- the clone's header array stays the same list `x`
  obtain ⟨x, hx⟩ : ∃ x, h.arrays[c.arr]? = some x := ⟨_, List.getElem?_eq_getElem hc⟩
  clear hc
  induction ops generalizing h with
  | nil => rfl
  | cons op t ih =>
    have fr := hstep_frame h op c.arr (List.getElem?_eq_some_iff.1 hx).1 (hdisj [] op t rfl)
    rw [List.foldl_cons, ih (hstep h op) (fun pre op' post e => hdisj (op :: pre) op' post (e ▸ rfl)) (fr.trans hx)]
    simp only [Heap.vvOf, Heap.viewsOf, List.getD, fr]

/-- the instance for a hypothesis over ALL heaps `hp`, which no non-empty `ops` meets (a recorded finding) -/
theorem clone_independent (h : Heap) (c : Obj) (ops : List HOp) (hc : c.arr < h.arrays.length)
    (hdisj : ∀ (hp : Heap) (op : HOp), op ∈ ops → ∀ o, hp.objs[op.target]? = some o → o.arr ≠ c.arr) :
    (ops.foldl hstep h).vvOf c = h.vvOf c :=
  clone_independent_run h c ops hc fun _ op _ e => hdisj _ op (e ▸ List.mem_append_right _ (List.mem_cons_self ..))

/-- `Clone`'s object denotes the same bytes through a header array of its own -/
theorem clone_fresh (h : Heap) (i : Nat) (o : Obj) (ho : h.objs[i]? = some o) :
    (h.clone i).objs.getLast? = some { arr := h.arrays.length, off := 0, cnt := (h.viewsOf o).length, size := o.size } ∧
    ((h.clone i).vvOf { arr := h.arrays.length, off := 0, cnt := (h.viewsOf o).length, size := o.size }).bytes
      = (h.vvOf o).bytes := by
  simp only [Heap.clone, ho, Heap.new, Heap.vvOf, Heap.viewsOf, VV.bytes, List.getD]
  refine ⟨by simp, ?_⟩
  simp only [List.getElem?_append_right (Nat.le_refl _), Nat.sub_self, List.getElem?_cons_zero, Option.getD_some,
    List.drop_zero]
  rw [List.take_of_length_le (Nat.le_refl _)]

/-- hazard, *not* claimed by C16: a by-value struct copy shares the header array, so trimming the original corrupts the
    copy (kernel-checked) -/
theorem struct_copy_hazard_witness :
    let h0 : Heap := ({} : Heap).new [{ data := [1, 2, 3] }] 3
    let h1 := h0.copy 0
    let h2 := h1.trimFront 0 2
    (h1.objs[1]?.map fun o => (h1.vvOf o).bytes) = some [1, 2, 3] ∧
    (h2.objs[1]?.map fun o => ((h2.vvOf o).bytes, o.size)) = some ([3], 3) := ⟨rfl, rfl⟩

/-- a capped view cannot be re-extended, by a reslice or by another `CapLength` -/
theorem cap_irreversible (v : View) (l : Int) (v' : View) (h : v.capLength l = some v') :
    v'.extra = [] ∧ v'.len = l ∧ ∀ n : Int, n > l → v'.reslice n = none ∧ v'.capLength n = none := by
  unfold View.capLength at h
  split at h
  · cases h
  · next hc =>
    cases h
    have hlen : View.len ⟨(v.data ++ v.extra).take l.toNat, []⟩ = l := by
      simp only [View.len, List.length_take, List.length_append] at *
      omega
    refine ⟨rfl, hlen, fun n hn => ?_⟩
    -- no spare capacity is left, so `n > l` fails the bound check of both
    have hb : n < 0 ∨ n > l + (0 : Nat) := Or.inr (by omega)
    rw [View.reslice, View.capLength, hlen]
    exact ⟨if_pos hb, if_pos hb⟩

/-- within the cap a view *can* be re-sliced: the cap is the limit -/
example : (View.mk [1, 2] [3]).reslice 3 = some ⟨[1, 2, 3], []⟩ := by decide
example : ((View.mk [1, 2] [3]).capLength 2).bind (·.reslice 3) = none := by decide

/-- `Prepend(n)` within the reserved space puts the `n` written bytes before the old view; beyond it returns nil and
    changes nothing. -/
theorem prepend_spec (p : Prep) (n : Int) (fill : List Nat) (hu : 0 ≤ p.usedIdx) (hub : p.usedIdx ≤ p.buf.length)
    (hn : 0 ≤ n) (hf : fill.length = n.toNat) :
    (n > p.usedIdx → p.prepend n fill = (p, some false)) ∧
    (n ≤ p.usedIdx → ∃ old, p.view = some old ∧ (p.prepend n fill).2 = some true ∧
        (p.prepend n fill).1.view = some (fill ++ old) ∧
        (p.prepend n fill).1.usedLength = p.usedLength + n) := by
  refine ⟨fun h => if_pos h, fun h => ?_⟩
  -- `n.toNat` bytes are written at index `i`, the old view starts at `i + n.toNat`
  generalize hi : (p.usedIdx - n).toNat = i
  have hk : p.usedIdx.toNat = i + n.toNat := by omega
  have hpre : p.prepend n fill = (⟨p.buf.take i ++ fill ++ p.buf.drop (i + n.toNat), p.usedIdx - n⟩, some true) := by
    simp only [Prep.prepend, hi, List.take_left' hf]
    rw [if_neg (by omega), if_neg (by omega)]
  have hview : ∀ (b : List Nat) (j : Int), 0 ≤ j → j ≤ b.length → Prep.view ⟨b, j⟩ = some (b.drop j.toNat) :=
    fun b j h0 h1 => if_neg (by simp only; omega)
  have hlen : (p.buf.take i).length = i := by rw [List.length_take]; omega
  rw [hpre]
  refine ⟨p.buf.drop (i + n.toNat), hk ▸ hview _ _ hu hub, rfl, ?_, ?_⟩
  · rw [hview _ _ (by omega) (by simp only [List.length_append, List.length_drop, hlen, hf]; omega), hi,
      List.append_assoc, List.drop_left' hlen]
  · simp only [Prep.usedLength, List.length_append, List.length_drop, hlen, hf]
    omega

/-- two of three reserved bytes used; an `Inv` with an empty chunk and spare capacity -/
example : ((Prep.mk [0, 0, 0, 9] 3).prepend 2 [7, 8]).1.view = some [7, 8, 9] := by decide
example : Inv ⟨[⟨[1, 2], []⟩, ⟨[], []⟩, ⟨[3], [4]⟩], 3⟩ := by simp [Inv, total, View.len]

end C16
