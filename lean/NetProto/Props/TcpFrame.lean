import NetProto.Model.TcpStack
/-! What the operations of a connected endpoint do and leave alone, once per operation: frames as equations "the result
is the argument with these fields replaced" (new values existentially bound; they compose by `rfl`, and a field that
stays is the equation read there), the handlers with their guards decided (`appRead_eq` .. `timerEvent_eq`,
`sendStep_cases`, `sendData_steps`), the sender's handling of an acknowledgement in its pieces (`ackLoop_list`,
`ackAdvance_list`, `CdaCase`, `sndPrepare_eq`).

Traps that shape statements here and in every file that uses them:
* Never project from, or rewrite inside, a concrete `ackLoop ..`, `ackAdvance ..`, `splitAt ..` or `checkDuplicateAck ..`
  term: the kernel unfolds it (deep recursion, builds of minutes).  State the fact over a variable with an equation, or
  `generalize` the term first; hence `sndPrepare_eq`'s `∃ r bu c T, c = .. ∧ T = .. ∧ ..`.
* Likewise Prod eta on a big pair (`R e (r.1, r.2)` against `R e r`): results are stated in pair form.
* A guard is decided with `by_cases h` and `rw [if_pos h]`, all guards of a function at once with `fun_cases`, a loop
  with `fun_induction` (not `sendStep`: the kernel does not get through its case principle); a `split` on an outer `if`
  abstracts its condition in the whole remaining body, at about eight times the cost.  The cases of `fun_cases` /
  `fun_induction` come in the order of the model function's branches and their binders are positional: when the model
  function changes, that is where to look. -/
namespace Props.TcpFrame
open Model.Tcp

theorem getSendParams_eq (e : Ep) :
    ∃ a, getSendParams e = ({ e with rcv := { e.rcv with rcvAcc := a } }, e.rcv.rcvNxt, sizeS e.rcv.rcvNxt a >>> e.rcv.rcvWndScale) := by
  unfold getSendParams
  simp only
  split
  · exact ⟨_, rfl⟩
  · exact ⟨e.rcv.rcvAcc, rfl⟩

theorem sendSegment_eq (e : Ep) (d : List Nat) (f q : Nat) :
    ∃ a, (sendSegment e d f q).1 = { e with rcv := { e.rcv with rcvAcc := a }, snd := { e.snd with maxSentAck := e.rcv.rcvNxt } } := by
  obtain ⟨a, h⟩ := getSendParams_eq e
  unfold sendSegment
  rw [h]
  exact ⟨a, rfl⟩

theorem closeIfDone_eq (e : Ep) : ∃ st dn, closeIfDone e = { e with state := st, done := dn } := by
  unfold closeIfDone
  split <;> exact ⟨_, _, rfl⟩

/-! ## the receiving half is untouched -/

/-- what the receiver's invariant (`C01.RInv`) reads is as it was; `rcvAcc` and the buffer counts are not among it -/
def RcvSame (e e' : Ep) : Prop :=
  e'.rcvList = e.rcvList ∧ e'.rcv.rcvNxt = e.rcv.rcvNxt ∧ e'.rcv.closed = e.rcv.closed ∧ e'.rcv.pending = e.rcv.pending

theorem RcvSame.refl (e : Ep) : RcvSame e e := ⟨rfl, rfl, rfl, rfl⟩
theorem RcvSame.trans {a b c : Ep} (h1 : RcvSame a b) (h2 : RcvSame b c) : RcvSame a c :=
  ⟨h2.1.trans h1.1, h2.2.1.trans h1.2.1, h2.2.2.1.trans h1.2.2.1, h2.2.2.2.trans h1.2.2.2⟩

theorem sendSegment_rcvSame (e : Ep) (d : List Nat) (f q : Nat) : RcvSame e (sendSegment e d f q).1 := by
  obtain ⟨a, h⟩ := sendSegment_eq e d f q
  rw [h]
  exact .refl e

theorem sendAck_rcvSame (e : Ep) : RcvSame e (sendAck e).1 := sendSegment_rcvSame e [] fAck e.snd.sndNxt

theorem closeIfDone_rcvSame (e : Ep) : RcvSame e (closeIfDone e) := by
  obtain ⟨_, _, h⟩ := closeIfDone_eq e
  rw [h]
  exact .refl e

theorem advanceRcv_deliver (e : Ep) (d : List Nat) (q : Nat) :
    (advanceRcv (deliver e d) q).rcvList.flatten = e.rcvList.flatten ++ d ∧
    (d ≠ [] → (advanceRcv (deliver e d) q).rcvList = e.rcvList ++ [d]) ∧
    (advanceRcv (deliver e d) q).rcv.rcvNxt = q ∧ (advanceRcv (deliver e d) q).rcv.closed = e.rcv.closed ∧
    (advanceRcv (deliver e d) q).rcv.pending = e.rcv.pending := by
  cases d with
  | nil => exact ⟨by simp [advanceRcv, deliver], fun h => absurd rfl h, rfl, rfl, rfl⟩
  | cons a t => exact ⟨by simp [advanceRcv, deliver], fun _ => by simp [advanceRcv, deliver], rfl, rfl, rfl⟩

/-! ## the sending half is untouched -/

structure SndSame (e e' : Ep) : Prop where
  snd : ∃ m, e'.snd = { e.snd with maxSentAck := m }
  sndClosed : e'.sndClosed = e.sndClosed

theorem SndSame.refl (e : Ep) : SndSame e e := ⟨⟨e.snd.maxSentAck, rfl⟩, rfl⟩

theorem SndSame.trans {a b c : Ep} (h₁ : SndSame a b) (h₂ : SndSame b c) : SndSame a c := by
  obtain ⟨⟨m₁, s₁⟩, c₁⟩ := h₁
  obtain ⟨⟨m₂, s₂⟩, c₂⟩ := h₂
  exact ⟨⟨m₂, by rw [s₂, s₁]⟩, c₂.trans c₁⟩

theorem SndSame.of_eq {e e' : Ep} (h₁ : e'.snd = e.snd) (h₂ : e'.sndClosed = e.sndClosed) : SndSame e e' :=
  ⟨⟨e.snd.maxSentAck, h₁⟩, h₂⟩

theorem SndSame.congr {α} {e e' : Ep} (h : SndSame e e') (f : Snd → α) (hf : ∀ s m, f { s with maxSentAck := m } = f s) :
    f e'.snd = f e.snd := by
  obtain ⟨m, hm⟩ := h.snd
  rw [hm, hf]

theorem sendSegment_sndSame (e : Ep) (d : List Nat) (f q : Nat) : SndSame e (sendSegment e d f q).1 := by
  obtain ⟨a, h⟩ := sendSegment_eq e d f q
  rw [h]
  exact ⟨⟨_, rfl⟩, rfl⟩

theorem sendAck_sndSame (e : Ep) : SndSame e (sendAck e).1 := sendSegment_sndSame e [] fAck e.snd.sndNxt

theorem deliver_sndSame (e : Ep) (d : List Nat) : SndSame e (deliver e d) := by
  unfold deliver
  split <;> exact .of_eq rfl rfl

theorem sendSegment_out (e : Ep) (d : List Nat) (f q : Nat) :
    (sendSegment e d f q).2.data = d ∧ (sendSegment e d f q).2.seq = q ∧ (sendSegment e d f q).2.flags = f ∧
    (sendSegment e d f q).2.ack = e.rcv.rcvNxt := by
  obtain ⟨a, h⟩ := getSendParams_eq e
  unfold sendSegment sendRaw
  rw [h]
  exact ⟨rfl, rfl, rfl, rfl⟩

def IsAck (o : OutSeg) : Prop := ∃ e, o = (sendAck e).2

theorem IsAck.out {o : OutSeg} (h : IsAck o) : o.data = [] ∧ o.flags = fAck := by
  obtain ⟨e, rfl⟩ := h
  have := sendSegment_out e [] fAck e.snd.sndNxt
  exact ⟨this.1, this.2.2.1⟩

/-- the receive path: the sending half stays, only acknowledgements go out, the receive list only grows at its end -/
structure RcvOnly (e : Ep) (r : Ep × List OutSeg) : Prop where
  snd : SndSame e r.1
  out : ∀ o ∈ r.2, IsAck o
  app : ∃ t, r.1.rcvList = e.rcvList ++ t

theorem RcvOnly.refl (e : Ep) : RcvOnly e (e, []) := ⟨.refl e, (fun _ ho => nomatch ho), [], (List.append_nil _).symm⟩

theorem RcvOnly.seq {e e₁ : Ep} {o₁ : List OutSeg} {r : Ep × List OutSeg} (h₁ : RcvOnly e (e₁, o₁)) (h₂ : RcvOnly e₁ r) :
    RcvOnly e (r.1, o₁ ++ r.2) := by
  obtain ⟨t₁, a₁⟩ := h₁.app
  obtain ⟨t₂, a₂⟩ := h₂.app
  exact ⟨h₁.snd.trans h₂.snd, fun o ho => (List.mem_append.mp ho).elim (h₁.out o) (h₂.out o),
    t₁ ++ t₂, by rw [a₂, a₁, List.append_assoc]⟩

theorem RcvOnly.upd {e e₁ e' : Ep} {o : List OutSeg} (h : RcvOnly e (e₁, o)) (h₁ : e'.snd = e₁.snd)
    (h₂ : e'.sndClosed = e₁.sndClosed) (h₃ : e'.rcvList = e₁.rcvList) : RcvOnly e (e', o) :=
  ⟨h.snd.trans (.of_eq h₁ h₂), h.out, by rw [h₃]; exact h.app⟩

theorem sendAck_rcvOnly (e : Ep) : RcvOnly e ((sendAck e).1, [(sendAck e).2]) :=
  ⟨sendAck_sndSame e, fun o ho => ⟨e, List.mem_singleton.mp ho⟩, [], by rw [(sendAck_rcvSame e).1, List.append_nil]⟩

theorem consumeFin_rcvOnly (e : Ep) : RcvOnly e ((consumeFin e).1, [(consumeFin e).2]) := by
  have h : RcvOnly e ({ e with rcv := { e.rcv with rcvNxt := addS e.rcv.rcvNxt 1 } }, []) := (RcvOnly.refl e).upd rfl rfl rfl
  -- reduced first: against the bare `consumeFin` term the unifier unfolds both `sendAck` emissions in the `rfl`s below
  unfold consumeFin
  dsimp only
  exact (h.seq (sendAck_rcvOnly _)).upd rfl rfl rfl

theorem consumeSegment_rcvOnly (e : Ep) (fl sq : Nat) (d : List Nat) :
    RcvOnly e ((consumeSegment e fl sq d).1, (consumeSegment e fl sq d).2.2) := by
  unfold consumeSegment
  split
  · exact .refl e
  · rename_i sq' d' _
    have h : RcvOnly e (advanceRcv (deliver e d') (addS sq' d'.length), []) := by
      refine ⟨(deliver_sndSame e d').trans (.of_eq rfl rfl), (fun _ ho => nomatch ho), ?_⟩
      unfold advanceRcv deliver
      split
      · exact ⟨[d'], rfl⟩
      · exact ⟨[], (List.append_nil _).symm⟩
    split
    · exact h.seq (consumeFin_rcvOnly _)
    · exact h

theorem drainPending_rcvOnly (fuel : Nat) (e₀ e : Ep) (out : List OutSeg) (h : RcvOnly e₀ (e, out)) :
    RcvOnly e₀ (drainPending fuel e out) := by
  -- cases in the model's order (4: a stale entry is dropped, 6: an entry is consumed; the others stop)
  fun_induction drainPending fuel e out
  case case4 ih => exact ih (h.upd rfl rfl rfl)
  case case6 e out _ s rest _ _ _ _ ih =>
    have hc := h.seq (consumeSegment_rcvOnly e s.flags s.seq s.data)
    refine ih ?_
    split
    · exact hc
    · exact hc.upd rfl rfl rfl
  all_goals exact h

theorem rcvHandleSegment_rcvOnly (e : Ep) (seg : InSeg) : RcvOnly e (rcvHandleSegment e seg) := by
  unfold rcvHandleSegment
  split
  · exact .refl e
  · split
    · exact sendAck_rcvOnly e
    · simp only
      split
      · split
        · have h : RcvOnly e ({ e with rcv := parkRcv e.rcv seg, sack := updateSack e.sack seg.seq (addS seg.seq seg.data.length) e.rcv.rcvNxt }, []) :=
            (RcvOnly.refl e).upd rfl rfl rfl
          exact h.seq (sendAck_rcvOnly _)
        · exact .refl e
      · exact drainPending_rcvOnly _ e _ _ (consumeSegment_rcvOnly ..)

theorem closeIfDone_sndSame (e : Ep) : SndSame e (closeIfDone e) := by
  obtain ⟨_, _, h⟩ := closeIfDone_eq e
  rw [h]
  exact .of_eq rfl rfl

/-! ## the application calls and the timer with their guards decided -/

theorem appRead_eq (e : Ep) :
    (∃ m, appRead e = (e, .error m, [])) ∨
    ∃ v rest, e.rcvList = v :: rest ∧
      (appRead e = (popRead e v rest, .ok v, []) ∨
       appRead e = ((sendAck (popRead e v rest)).1, .ok v, [(sendAck (popRead e v rest)).2])) := by
  fun_cases appRead e
  case case1 | case2 | case3 => exact .inl ⟨_, rfl⟩
  case case4 v rest hl _ _ _ => exact .inr ⟨v, rest, hl, .inl rfl⟩
  case case5 v rest hl _ _ _ _ => exact .inr ⟨v, rest, hl, .inr rfl⟩
  case case6 v rest hl _ _ => exact .inr ⟨v, rest, hl, .inl rfl⟩

theorem appWrite_eq (e : Ep) (d : List Nat) :
    (∃ r, appWrite e d = (e, r, [])) ∨
    ∃ v, e.state = .connected ∧ e.sndClosed = false ∧ v ≠ [] ∧ e.sndBufUsed + v.length ≤ e.sndBufSize ∧
      appWrite e d = ((sendData (queueWrite e v)).1, .ok v.length, (sendData (queueWrite e v)).2) := by
  fun_cases appWrite e d
  case case5 hs hd hc hb v r =>
    have hlen : v.length = min (e.sndBufSize - e.sndBufUsed) d.length := List.length_take
    refine .inr ⟨v, by simpa using hs, by simpa using hc, fun h => ?_, by omega, rfl⟩
    simp only [h, List.length_nil, beq_iff_eq] at hlen hd
    omega
  all_goals exact .inl ⟨_, rfl⟩

theorem appShutdownWrite_eq (e : Ep) :
    appShutdownWrite e = (e, []) ∨
    (e.state = .connected ∧ e.sndClosed = false ∧ appShutdownWrite e =
      (closeIfDone { (sendData (queueFin e)).1 with snd := { (sendData (queueFin e)).1.snd with closed := true } },
       (sendData (queueFin e)).2)) := by
  unfold appShutdownWrite
  split
  · exact .inl rfl
  · rename_i h
    simp only [Bool.or_eq_true, bne_iff_ne, not_or, Decidable.not_not, Bool.not_eq_true] at h
    exact .inr ⟨h.1, h.2, rfl⟩

theorem timerEvent_eq (e : Ep) :
    ((e.done = true ∨ e.snd.timerEnabled = false) ∧ timerEvent e = (e, [])) ∨
    (e.done = false ∧ e.snd.timerEnabled = true ∧ timerEvent e = sendData { e with snd := rtoState e.snd }) := by
  unfold timerEvent retransmitTimerExpired
  split
  · rename_i h; exact .inl ⟨.inl h, rfl⟩
  · split
    · rename_i h; exact .inl ⟨.inr (by simpa using h), rfl⟩
    · rename_i hd ht; exact .inr ⟨by simpa using hd, by simpa using ht, rfl⟩

/-! ## the send path -/

/-- what sending may change; every emission changes `rcvAcc`, and `maxSentAck`, which becomes `rcvNxt` -/
def SendOnly (e e' : Ep) : Prop :=
  ∃ wl wn nx gn o t m a, (m = e.snd.maxSentAck ∨ m = e.rcv.rcvNxt) ∧ e' = { e with
    snd := { e.snd with writeList := wl, writeNext := wn, sndNxt := nx, gNxt := gn, outstanding := o, timerEnabled := t, maxSentAck := m },
    rcv := { e.rcv with rcvAcc := a } }

theorem SendOnly.trans {a b c : Ep} (h₁ : SendOnly a b) (h₂ : SendOnly b c) : SendOnly a c := by
  obtain ⟨_, _, _, _, _, _, _, _, m₁, rfl⟩ := h₁
  obtain ⟨_, _, _, _, _, _, _, _, m₂, rfl⟩ := h₂
  exact ⟨_, _, _, _, _, _, _, _, m₂.elim (fun h => h ▸ m₁) .inr, rfl⟩

theorem SendOnly.rcvSame {e e' : Ep} (h : SendOnly e e') : RcvSame e e' := by
  obtain ⟨_, _, _, _, _, _, _, _, _, rfl⟩ := h
  exact .refl e

theorem emitAt_eq (e : Ep) (seg : WSeg) (x : Nat) : ∃ nx gn a, (emitAt e seg x).1 = { e with
    snd := { e.snd with sndNxt := nx, gNxt := gn, maxSentAck := e.rcv.rcvNxt }, rcv := { e.rcv with rcvAcc := a } } := by
  obtain ⟨a, h⟩ := sendSegment_eq e seg.data seg.flags seg.seq
  unfold emitAt Snd.bumpNxt
  simp only [h]
  split <;> exact ⟨_, _, _, rfl⟩

theorem emitAt_sendOnly (e : Ep) (seg : WSeg) (x : Nat) : SendOnly e (emitAt e seg x).1 := by
  obtain ⟨_, _, _, h⟩ := emitAt_eq e seg x
  rw [h]
  exact ⟨_, _, _, _, _, _, _, _, .inr rfl, rfl⟩

theorem emitAt_bump (e : Ep) (seg : WSeg) (x : Nat) : ∃ a, (emitAt e seg x).1 = { e with
    snd := ({ e.snd with maxSentAck := e.rcv.rcvNxt } : Snd).bumpNxt x, rcv := { e.rcv with rcvAcc := a } } := by
  obtain ⟨a, h⟩ := sendSegment_eq e seg.data seg.flags seg.seq
  unfold emitAt
  simp only [h]
  exact ⟨a, rfl⟩

theorem assign_data (seg : WSeg) (n : Nat) : (seg.assign n).data = seg.data ∧ (seg.assign n).gOff = seg.gOff := by
  unfold WSeg.assign
  split <;> exact ⟨rfl, rfl⟩

theorem set_decomp {α} (pre post : List α) (x y : α) : (pre ++ x :: post).set pre.length y = pre ++ y :: post := by simp

theorem splitAt_decomp (pre post : List WSeg) (old seg : WSeg) (a : Nat) :
    (splitAt (pre ++ old :: post) pre.length seg a).1 =
      (if seg.data.length > a then
        pre ++ { seg with data := seg.data.take a } :: { seq := addS seg.seq a, flags := seg.flags, data := seg.data.drop a, gOff := seg.gOff + a } :: post
       else pre ++ seg :: post) ∧
    (splitAt (pre ++ old :: post) pre.length seg a).2 = (if seg.data.length > a then { seg with data := seg.data.take a } else seg) := by
  unfold splitAt
  split <;> refine ⟨?_, rfl⟩ <;> simp [List.take_append, List.take_of_length_le]

/-- **The four outcomes of one iteration of the send loop**: nothing at `i` or the congestion window is full (`halt`), the
FIN (`fin`), the entry starts at or beyond the right edge of the peer's window (`edge`), a piece of at most `av` bytes
goes out (`data`).  The write list is written `pre ++ x :: post` around the entry at `i`, before and after, so that
`List.set`, `splitAt` and `[i]?` do not leave this file. -/
theorem sendStep_cases (e : Ep) (i : Nat) {A : Ep → Prop} {B : Ep → OutSeg → Prop}
    (halt : A (e.setWriteNext i))
    (fin : ∀ pre x post y r, e.snd.writeList = pre ++ x :: post → pre.length = i → e.snd.outstanding < (e.snd.cwnd : Int) →
      x.data = [] → y = { x.assign e.snd.sndNxt with flags := fAck ||| fFin } →
      r = emitAt { e with snd := { e.snd with writeList := pre ++ y :: post } } y (addS y.seq 1) → B r.1 r.2)
    (edge : ∀ pre x post y, e.snd.writeList = pre ++ x :: post → pre.length = i → x.data ≠ [] → y = x.assign e.snd.sndNxt →
      lt y.seq (sndEnd e.snd) = false → A { e with snd := { e.snd with writeList := pre ++ y :: post, writeNext := i } })
    (data : ∀ pre x post seg av y post' r, e.snd.writeList = pre ++ x :: post → pre.length = i →
      e.snd.outstanding < (e.snd.cwnd : Int) → x.data ≠ [] → seg = x.assign e.snd.sndNxt → lt seg.seq (sndEnd e.snd) = true →
      av = min (sizeS seg.seq (sndEnd e.snd)) e.snd.maxPayload → y = { seg with data := seg.data.take av } →
      (seg.data.length ≤ av ∧ post' = post ∨ av < seg.data.length ∧
        post' = { seq := addS seg.seq av, flags := seg.flags, data := seg.data.drop av, gOff := seg.gOff + av } :: post) →
      r = emitAt { e with snd := { e.snd with writeList := pre ++ y :: post', outstanding := e.snd.outstanding + 1 } } y
            (addS y.seq y.data.length) → B r.1 r.2) :
    (∀ e', sendStep e i = .stop e' → A e') ∧ (∀ e' o, sendStep e i = .sent e' o → B e' o) := by
  have stop : ∀ x, A x → (∀ e', SendRes.stop x = .stop e' → A e') ∧ (∀ e' o, SendRes.stop x = .sent e' o → B e' o) :=
    fun x hx => ⟨fun _ h => (by cases h; exact hx), fun _ _ h => (by cases h)⟩
  have sent : ∀ x o, B x o → (∀ e', SendRes.sent x o = .stop e' → A e') ∧ (∀ e' o', SendRes.sent x o = .sent e' o' → B e' o') :=
    fun x o hx => ⟨fun _ h => (by cases h), fun _ _ h => (by cases h; exact hx)⟩
  unfold sendStep
  cases hget : e.snd.writeList[i]? with
  | none => exact stop _ halt
  | some seg0 =>
    obtain ⟨hlt, hx⟩ := List.getElem?_eq_some_iff.mp hget
    obtain ⟨pre, post, hwl, hi, -⟩ := List.exists_of_set (a' := seg0) hlt
    rw [hx] at hwl
    have hset : ∀ y, e.snd.writeList.set i y = pre ++ y :: post := fun y => by rw [hwl, ← hi]; exact set_decomp ..
    have hd := (assign_data seg0 e.snd.sndNxt).1
    simp only
    by_cases hg : (!decide (e.snd.outstanding < (e.snd.cwnd : Int))) = true
    · rw [if_pos hg]; exact stop _ halt
    rw [if_neg hg]
    have hg : e.snd.outstanding < (e.snd.cwnd : Int) := by simpa using hg
    by_cases hz : ((seg0.assign e.snd.sndNxt).data.length == 0) = true
    · rw [if_pos hz, hset]
      exact sent _ _ (fin pre seg0 post _ _ hwl hi hg (List.eq_nil_of_length_eq_zero (by simpa [hd] using hz)) rfl rfl)
    rw [if_neg hz]
    have hne : seg0.data ≠ [] := fun h => hz (by simp [hd, h])
    by_cases hw : (!lt (seg0.assign e.snd.sndNxt).seq (sndEnd e.snd)) = true
    · rw [if_pos hw, hset]; exact stop _ (edge pre seg0 post _ hwl hi hne rfl (by simpa using hw))
    rw [if_neg hw]
    generalize hav : min (sizeS (seg0.assign e.snd.sndNxt).seq (sndEnd e.snd)) e.snd.maxPayload = av
    have hsp := splitAt_decomp pre post seg0 (seg0.assign e.snd.sndNxt) av
    rw [← hwl, hi] at hsp
    -- the pair becomes a variable (the traps at the head of the file)
    generalize splitAt e.snd.writeList i (seg0.assign e.snd.sndNxt) av = sp at hsp ⊢
    obtain ⟨s1, s2⟩ := sp
    obtain ⟨h1, h2⟩ : s1 = _ ∧ s2 = _ := hsp
    by_cases hlong : (seg0.assign e.snd.sndNxt).data.length > av
    · rw [if_pos hlong] at h1 h2
      subst h1 h2
      exact sent _ _ (data pre seg0 post _ av _ _ _ hwl hi hg hne rfl (by simpa using hw) hav.symm rfl (.inr ⟨hlong, rfl⟩) rfl)
    · rw [if_neg hlong] at h1 h2
      subst h1 h2
      exact sent _ _ (data pre seg0 post _ av _ post _ hwl hi hg hne rfl (by simpa using hw) hav.symm
        (by rw [List.take_of_length_le (by omega)]) (.inl ⟨by omega, rfl⟩) rfl)

theorem resendSegment_rcvSame (e : Ep) : RcvSame e (resendSegment e).1 := by
  unfold resendSegment
  split
  · exact .refl e
  · rename_i sg _; exact sendSegment_rcvSame e sg.data sg.flags sg.seq

theorem sendDataLoop_out (fuel : Nat) (e : Ep) (i : Nat) (out : List OutSeg) :
    sendDataLoop fuel e i out = ((sendDataLoop fuel e i []).1, out ++ (sendDataLoop fuel e i []).2) := by
  induction fuel generalizing e i out with
  | zero => simp [sendDataLoop]
  | succ n ih =>
    unfold sendDataLoop
    split
    · simp
    · rename_i e' o _
      rw [ih e' (i + 1) (out ++ [o]), ih e' (i + 1) ([] ++ [o])]
      simp

theorem splitAt_snd (wl : List WSeg) (i : Nat) (seg : WSeg) (a : Nat) :
    (splitAt wl i seg a).2 = { seg with data := seg.data.take a } := by
  unfold splitAt
  split
  · rfl
  · rw [List.take_of_length_le (by omega)]

/-- **`sendData` from its iterations.**  `R`: what a stretch of the loop up to where it stops makes of an endpoint;
`T e e' o`: one iteration that sends `o`; `I e i`: what holds at index `i`.  `T` is a relation of its own because `R` may
speak of what only the stop establishes (`writeNext` is set there). -/
theorem sendData_steps {R : Ep → Ep × List OutSeg → Prop} {T : Ep → Ep → OutSeg → Prop} {I : Ep → Nat → Prop}
    (seq : ∀ {e e₁ o r}, T e e₁ o → R e₁ r → R e (r.1, [o] ++ r.2))
    (halt : ∀ e i, I e i → R e (e.setWriteNext i, []))
    (step : ∀ e i, I e i → (∀ e', sendStep e i = .stop e' → R e (e', [])) ∧
      (∀ e' o, sendStep e i = .sent e' o → I e' (i + 1) ∧ T e e' o))
    (arm : ∀ e e₁ o, R e (e₁, o) → R e ({ e₁ with snd := { e₁.snd with timerEnabled := true } }, o))
    (e : Ep) (h : I e e.snd.writeNext) : R e (sendData e) := by
  have loop : ∀ fuel e i, I e i → R e (sendDataLoop fuel e i []) := by
    intro fuel
    induction fuel with
    | zero => exact halt
    | succ n ih =>
      intro e i h
      have hs := step e i h
      unfold sendDataLoop
      split
      · rename_i heq; exact hs.1 _ heq
      · rename_i e' o heq
        rw [sendDataLoop_out]
        exact seq (hs.2 _ _ heq).2 (ih e' (i + 1) (hs.2 _ _ heq).1)
  have hl := loop (sendFuel e.snd + 1) e e.snd.writeNext h
  unfold sendData
  simp only
  split
  · exact arm _ _ _ hl
  · exact hl

theorem sendStep_sendOnly (e : Ep) (i : Nat) :
    (∀ e', sendStep e i = .stop e' → SendOnly e e') ∧ (∀ e' o, sendStep e i = .sent e' o → SendOnly e e') := by
  have set : ∀ wl wn o, SendOnly e { e with snd := { e.snd with writeList := wl, writeNext := wn, outstanding := o } } :=
    fun _ _ _ => ⟨_, _, _, _, _, _, _, _, .inl rfl, rfl⟩
  exact sendStep_cases e i (A := SendOnly e) (B := fun e' _ => SendOnly e e') (set _ _ _)
    (fun pre _ post y r _ _ _ _ _ hr => hr ▸ (set (pre ++ y :: post) _ _).trans (emitAt_sendOnly ..))
    (fun _ _ _ _ _ _ _ _ _ => set _ _ _)
    (fun pre _ _ _ _ y post' r _ _ _ _ _ _ _ _ _ hr => hr ▸ (set (pre ++ y :: post') _ (e.snd.outstanding + 1)).trans (emitAt_sendOnly ..))

theorem sendData_sendOnly (e : Ep) : SendOnly e (sendData e).1 :=
  have set : ∀ (x : Ep) wn t, SendOnly x { x with snd := { x.snd with writeNext := wn, timerEnabled := t } } :=
    fun _ _ _ => ⟨_, _, _, _, _, _, _, _, .inl rfl, rfl⟩
  sendData_steps (R := fun e r => SendOnly e r.1) (T := fun e e' _ => SendOnly e e') (I := fun _ _ => True)
    SendOnly.trans (fun e i _ => set e i _)
    (fun e i _ => ⟨(sendStep_sendOnly e i).1, fun e' o h => ⟨trivial, (sendStep_sendOnly e i).2 e' o h⟩⟩)
    (fun _ e₁ _ h => h.trans (set e₁ _ true)) e trivial

theorem sendData_rcvSame (e : Ep) : RcvSame e (sendData e).1 := (sendData_sendOnly e).rcvSame

theorem emitAt_out (e : Ep) (seg : WSeg) (x : Nat) :
    (emitAt e seg x).2.data = seg.data ∧ (emitAt e seg x).2.seq = seg.seq ∧ (emitAt e seg x).2.flags = seg.flags :=
  have o := sendSegment_out e seg.data seg.flags seg.seq
  ⟨o.1, o.2.1, o.2.2.1⟩

theorem resendSegment_out (e : Ep) : ∀ o ∈ (resendSegment e).2, ∃ x, e.snd.writeList.head? = some x ∧
    o.data = x.data ∧ o.seq = x.seq ∧ o.flags = x.flags := by
  unfold resendSegment
  split
  · exact fun o ho => nomatch ho
  · rename_i x hx
    intro o ho
    have h := sendSegment_out e x.data x.flags x.seq
    rw [List.mem_singleton.mp ho]
    exact ⟨x, hx, h.1, h.2.1, h.2.2.1⟩

theorem renoCA_eq (s : Snd) (n : Nat) : renoCA s n =
    if s.cwnd > 0 ∧ s.caAck + n ≥ s.cwnd then
      { s with cwnd := s.cwnd + (s.caAck + n) / s.cwnd, caAck := (s.caAck + n) % (s.cwnd + (s.caAck + n) / s.cwnd) }
    else { s with caAck := s.caAck + n } := by
  unfold renoCA
  simp only [Bool.and_eq_true, decide_eq_true_eq]

theorem renoSlowStart_eq (s : Snd) (n : Nat) : renoSlowStart s n =
    if s.ssInf = false ∧ s.cwnd + n ≥ s.ssthresh then
      ({ s with cwnd := s.ssthresh, caAck := 0 }, n - (s.ssthresh - s.cwnd))
    else ({ s with cwnd := s.cwnd + n }, 0) := by
  unfold renoSlowStart
  simp only [Bool.and_eq_true, Bool.not_eq_true', decide_eq_true_eq]

/-! ## the sender's handling of an acknowledgement -/

/-- what congestion control changes -/
def CongSame (s s' : Snd) : Prop :=
  ∃ cw ca sst ssi fr da gd, s' = { s with cwnd := cw, caAck := ca, ssthresh := sst, ssInf := ssi, fr := fr, dupAck := da, gDup := gd }

theorem renoUpdate_same (s : Snd) (n : Nat) : ∃ cw ca, renoUpdate s n = { s with cwnd := cw, caAck := ca } := by
  have ca : ∀ (x : Snd) (k : Nat), ∃ cw ca, renoCA x k = { x with cwnd := cw, caAck := ca } := by
    intro x k; unfold renoCA; simp only; split <;> exact ⟨_, _, rfl⟩
  have ss : ∃ cw ca, (renoSlowStart s n).1 = { s with cwnd := cw, caAck := ca } := by
    unfold renoSlowStart; split <;> exact ⟨_, _, rfl⟩
  unfold renoUpdate
  split
  · simp only
    split
    · exact ss
    · obtain ⟨_, _, h1⟩ := ss
      obtain ⟨_, _, h2⟩ := ca (renoSlowStart s n).1 (renoSlowStart s n).2
      rw [h2, h1]; exact ⟨_, _, rfl⟩
  · exact ca s n

/-- what the loop leaves of a write list when `a` units of sequence space are acknowledged -/
def ackList : List WSeg → Nat → List WSeg
  | [], _ => []
  | seg :: rest, a =>
    if a = 0 then seg :: rest
    else if seg.logicalLen > a then
      { seg with data := seg.data.drop a, seq := addS seg.seq a, gOff := seg.gOff + a } :: rest
    else ackList rest (a - seg.logicalLen)

/-- the number of entries it removes, and the sender then: `ackLoop` is `ackedTo s (ackList ..) (ackCount ..)`
(`ackLoop_list`) -/
def ackCount : List WSeg → Nat → Nat
  | [], _ => 0
  | seg :: rest, a => if a = 0 then 0 else if seg.logicalLen > a then 0 else ackCount rest (a - seg.logicalLen) + 1

def ackedTo (s : Snd) (wl : List WSeg) (k : Nat) : Snd :=
  { s with writeList := wl, writeNext := s.writeNext - k, outstanding := s.outstanding - k, gAcked := s.gAcked + k }

theorem ackedTo_zero (s : Snd) : ackedTo s s.writeList 0 = s := by
  cases s; simp [ackedTo]

theorem ackedTo_succ (s : Snd) (rest wl : List WSeg) (k : Nat) :
    ackedTo { s with writeList := rest, writeNext := (if s.writeNext == 0 then 0 else s.writeNext - 1),
                     outstanding := s.outstanding - 1, gAcked := s.gAcked + 1 } wl k = ackedTo s wl (k + 1) := by
  simp only [ackedTo, Snd.mk.injEq, true_and, and_true]
  refine ⟨by omega, ?_, by omega⟩
  split
  · rename_i h; simp at h; omega
  · omega

theorem ackLoop_list (fuel : Nat) : ∀ (s : Snd) (a : Nat), s.writeList.length < fuel →
    ackLoop fuel s a = ackedTo s (ackList s.writeList a) (ackCount s.writeList a) := by
  induction fuel with
  | zero => intro s a h; omega
  | succ n ih =>
    intro s a hf
    unfold ackLoop
    split
    · rename_i hz
      have hz' : a = 0 := by simpa using hz
      subst hz'
      have : ackList s.writeList 0 = s.writeList ∧ ackCount s.writeList 0 = 0 := by
        cases s.writeList <;> simp [ackList, ackCount]
      rw [this.1, this.2, ackedTo_zero]
    · rename_i hz
      have hz' : ¬ a = 0 := by simpa using hz
      split
      · rename_i hnil
        rw [hnil]
        simp only [ackList, ackCount]
        rw [← hnil, ackedTo_zero]
      · rename_i seg rest hwl
        rw [hwl] at hf
        simp only [hwl, ackList, ackCount, hz', if_false]
        split
        · simp only [ackedTo, Int.natCast_zero, Int.sub_zero, Nat.sub_zero, Nat.add_zero]
        · rw [ih _ _ (by simp at hf ⊢; omega), ackedTo_succ]

/-- `ackAdvance` before the cumulative-ACK loop -/
def ackStart (s : Snd) (ack : Nat) : Snd :=
  { s with dupAck := 0, timerEnabled := false, sndUna := ack, gUna := s.gUna + sizeS s.sndUna ack,
           gEdge := max s.gEdge (s.gUna + sizeS s.sndUna ack + s.sndWnd % M) }

/-- `ackAdvance` after the loop: `renoState.Update` with the number of segments removed (outside fast recovery; `out0`:
the count in flight before), then `outstanding` clamped at 0 -/
def ackFinish (out0 : Int) (A : Snd) : Snd :=
  let s2 := if !A.fr.active then renoUpdate A (if out0 - A.outstanding < 0 then 0 else (out0 - A.outstanding).toNat) else A
  if s2.outstanding < 0 then { s2 with outstanding := 0 } else s2

-- unfolded first: a bare `rfl` has the elaborator compare the nested updates field by field
theorem ackAdvance_eq (s : Snd) (ack : Nat) :
    ackAdvance s ack = ackFinish s.outstanding (ackLoop (s.writeList.length + 1) (ackStart s ack) (sizeS s.sndUna ack)) := by
  unfold ackAdvance ackFinish ackStart
  rfl

theorem ackFinish_same (o : Int) (A : Snd) : ∃ cw ca out, ackFinish o A = { A with cwnd := cw, caAck := ca, outstanding := out } := by
  unfold ackFinish
  simp only
  generalize (if o - A.outstanding < 0 then 0 else (o - A.outstanding).toNat) = d
  obtain ⟨cw, ca, h⟩ := renoUpdate_same A d
  split
  · rw [h]; split <;> exact ⟨_, _, _, rfl⟩
  · split <;> exact ⟨_, _, _, rfl⟩

theorem ackAdvance_list (s : Snd) (ack : Nat) : ∃ cw ca out, ackAdvance s ack =
    { ackedTo (ackStart s ack) (ackList s.writeList (sizeS s.sndUna ack)) (ackCount s.writeList (sizeS s.sndUna ack)) with
      cwnd := cw, caAck := ca, outstanding := out } := by
  rw [ackAdvance_eq, ackLoop_list (s.writeList.length + 1) (ackStart s ack) _ (Nat.lt_succ_self s.writeList.length)]
  exact ackFinish_same _ _

theorem rtoState_same (s : Snd) : ∃ sst fr da, fr.active = false ∧ rtoState s =
    { s with timerEnabled := false, cwnd := 1, ssthresh := sst, ssInf := false, fr := fr, dupAck := da, outstanding := 0, writeNext := 0 } := by
  unfold rtoState reduceSsthresh leaveFastRecovery
  simp only
  split
  · exact ⟨_, _, _, rfl, rfl⟩
  · rename_i h
    exact ⟨_, _, _, by simpa using h, rfl⟩

/-- **The outcomes of `checkDuplicateAck`**, each with what the tests on the way to it have established.  In fast
recovery: out of range (`outside`), beyond the mark (`leave`), no duplicate (`other`), a duplicate of the recovery
point (`inflate`), a partial acknowledgement (`partialAck`).  Otherwise: no duplicate (`reset`), a first or second one
(`count`), a third from before the last recovery (`stale`), the third that starts fast recovery (`enter`). -/
inductive CdaCase (s : Snd) (ack ll w : Nat) : Snd × Bool → Prop
  | outside : s.fr.active = true → inRange ack s.sndUna (addS s.sndNxt 1) = false → CdaCase s ack ll w (s, false)
  | leave : s.fr.active = true → inRange ack s.sndUna (addS s.sndNxt 1) = true → lt s.fr.last ack = true →
      CdaCase s ack ll w (leaveFastRecovery s, false)
  | other : s.fr.active = true → inRange ack s.sndUna (addS s.sndNxt 1) = true → lt s.fr.last ack = false →
      (ll ≠ 0 ∨ s.sndWnd ≠ w) → CdaCase s ack ll w (s, false)
  | inflate : s.fr.active = true → inRange ack s.sndUna (addS s.sndNxt 1) = true → lt s.fr.last ack = false →
      ll = 0 → s.sndWnd = w → ack = s.fr.first →
      CdaCase s ack ll w ((if s.cwnd < s.fr.maxCwnd then { s with cwnd := s.cwnd + 1, gDup := s.gDup + 1 }
                           else { s with gDup := s.gDup + 1 }), false)
  | partialAck : s.fr.active = true → inRange ack s.sndUna (addS s.sndNxt 1) = true → lt s.fr.last ack = false →
      ll = 0 → s.sndWnd = w → ack ≠ s.fr.first →
      CdaCase s ack ll w ({ s with fr := { s.fr with first := ack }, dupAck := 0 }, true)
  | reset : s.fr.active = false → (ack ≠ s.sndUna ∨ ll ≠ 0 ∨ s.sndWnd ≠ w ∨ ack = s.sndNxt) →
      CdaCase s ack ll w ({ s with dupAck := 0 }, false)
  | count : s.fr.active = false → ack = s.sndUna → ll = 0 → s.sndWnd = w → ack ≠ s.sndNxt → s.dupAck + 1 < 3 →
      CdaCase s ack ll w ({ s with dupAck := s.dupAck + 1, gDup := s.gDup + 1 }, false)
  | stale : s.fr.active = false → ack = s.sndUna → ll = 0 → s.sndWnd = w → ack ≠ s.sndNxt → 3 ≤ s.dupAck + 1 →
      lt s.fr.last ack = false → CdaCase s ack ll w ({ s with dupAck := 0, gDup := s.gDup + 1 }, false)
  | enter : s.fr.active = false → ack = s.sndUna → ll = 0 → s.sndWnd = w → ack ≠ s.sndNxt → 3 ≤ s.dupAck + 1 →
      lt s.fr.last ack = true →
      CdaCase s ack ll w ({ enterFastRecovery (reduceSsthresh { s with dupAck := s.dupAck + 1, gDup := s.gDup + 1 })
                            with dupAck := 0 }, true)

theorem cda_case (s : Snd) (ack ll w : Nat) : CdaCase s ack ll w (checkDuplicateAck s ack ll w) := by
  have dup : ¬(ack != s.sndUna || ll != 0 || s.sndWnd != w || ack == s.sndNxt) = true →
      ack = s.sndUna ∧ ll = 0 ∧ s.sndWnd = w ∧ ack ≠ s.sndNxt := by simp [and_assoc]
  fun_cases checkDuplicateAck s ack ll w
  case case1 ha hr => exact .outside ha (by simpa using hr)
  case case2 ha hr hl => exact .leave ha (by simpa using hr) hl
  case case3 ha hr hl hd => exact .other ha (by simpa using hr) (by simpa using hl) (by simpa using hd)
  case case4 ha hr hl hd hf =>
    have hd : ll = 0 ∧ s.sndWnd = w := by simpa using hd
    exact .inflate ha (by simpa using hr) (by simpa using hl) hd.1 hd.2 (by simpa using hf)
  case case5 ha hr hl hd hf =>
    have hd : ll = 0 ∧ s.sndWnd = w := by simpa using hd
    exact .partialAck ha (by simpa using hr) (by simpa using hl) hd.1 hd.2 (by simpa using hf)
  case case6 ha hc => exact .reset (by simpa using ha) (by simpa [or_assoc] using hc)
  case case7 ha hc _ hn =>
    obtain ⟨h1, h2, h3, h4⟩ := dup hc
    exact .count (by simpa using ha) h1 h2 h3 h4 hn
  case case8 ha hc _ hn hl =>
    obtain ⟨h1, h2, h3, h4⟩ := dup hc
    exact .stale (by simpa using ha) h1 h2 h3 h4 (Nat.le_of_not_lt hn) (by simpa using hl)
  case case9 ha hc _ hn hl =>
    obtain ⟨h1, h2, h3, h4⟩ := dup hc
    exact .enter (by simpa using ha) h1 h2 h3 h4 (Nat.le_of_not_lt hn) (by simpa using hl)

theorem checkDuplicateAck_same (s : Snd) (ack ll w : Nat) : CongSame s (checkDuplicateAck s ack ll w).1 := by
  have set : ∀ cw ca sst ssi fr da gd, CongSame s { s with cwnd := cw, caAck := ca, ssthresh := sst, ssInf := ssi, fr := fr, dupAck := da, gDup := gd } :=
    fun _ _ _ _ _ _ _ => ⟨_, _, _, _, _, _, _, rfl⟩
  have h := cda_case s ack ll w
  generalize checkDuplicateAck s ack ll w = c at h
  cases h with
  | inflate =>
    split <;> exact set ..
  | _ => exact set ..

/-- the window update of `sndPrepare` -/
def wndUpdate (s : Snd) (w : Nat) : Snd := { s with sndWnd := w, gEdge := max s.gEdge (s.gUna + w % M) }

theorem updateRecentTimestamp_eq (e : Ep) (v m q : Nat) : ∃ r, updateRecentTimestamp e v m q = { e with recentTS := r } := by
  unfold updateRecentTimestamp
  split <;> exact ⟨_, rfl⟩

/-- **`sndPrepare` in its pieces**: the outcome `c` of the duplicate-ACK bookkeeping, the window update, the acknowledgement
if it covers new data (the sender is then `T`), the retransmission if `c` asks for one.  `c` and `T` are variables with
their equations (the traps at the head of the file). -/
theorem sndPrepare_eq (e : Ep) (seg : InSeg) (w : Nat) (ts : Model.Header.TCPOpts) : ∃ r bu c T,
    c = checkDuplicateAck e.snd seg.ack seg.logicalLen w ∧
    T = (if inRange (subS seg.ack 1) (wndUpdate c.1 w).sndUna (wndUpdate c.1 w).sndNxt = true
         then ackAdvance (wndUpdate c.1 w) seg.ack else wndUpdate c.1 w) ∧
    sndPrepare e seg w ts = if c.2 = true then resendSegment { e with recentTS := r, sndBufUsed := bu, snd := T }
                            else ({ e with recentTS := r, sndBufUsed := bu, snd := T }, []) := by
  obtain ⟨r, h⟩ := updateRecentTimestamp_eq e ts.tsVal e.snd.maxSentAck seg.seq
  unfold sndPrepare
  simp only [h]
  generalize checkDuplicateAck e.snd seg.ack seg.logicalLen w = c
  by_cases hr : inRange (subS seg.ack 1) c.1.sndUna c.1.sndNxt = true
  · refine ⟨r, e.sndBufUsed - sizeS c.1.sndUna seg.ack, c, _, rfl, rfl, ?_⟩
    rw [if_pos hr, if_pos (show inRange (subS seg.ack 1) (wndUpdate c.1 w).sndUna (wndUpdate c.1 w).sndNxt = true from hr)]
    rfl
  · refine ⟨r, e.sndBufUsed, c, _, rfl, rfl, ?_⟩
    rw [if_neg hr, if_neg (show ¬ inRange (subS seg.ack 1) (wndUpdate c.1 w).sndUna (wndUpdate c.1 w).sndNxt = true from hr)]
    rfl

theorem sndHandleSegment_rcvSame (e : Ep) (seg : InSeg) (w : Nat) (ts : Model.Header.TCPOpts) :
    RcvSame e (sndHandleSegment e seg w ts).1 := by
  refine .trans ?_ (sendData_rcvSame _)
  obtain ⟨r, bu, c, T, _, _, h⟩ := sndPrepare_eq e seg w ts
  rw [h]
  split
  · exact RcvSame.trans (.refl e) (resendSegment_rcvSame _)
  · exact .refl e

theorem resendSegment_sndSame (e : Ep) : SndSame e (resendSegment e).1 := by
  unfold resendSegment
  split
  · exact .refl e
  · rename_i x _; exact sendSegment_sndSame e x.data x.flags x.seq

end Props.TcpFrame
