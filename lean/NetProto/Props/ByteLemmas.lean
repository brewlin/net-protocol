import NetProto.Model.Header
import NetProto.Spec.Rfc
/-! Byte-level facts (namespace `Props.Hdr`) shared by C15, C15Opts, C06, C06More, C12 and C07.

An encoder applied to a long enough buffer is the concatenation of its fields' encodings followed by the untouched tail
(`tcpEncode_bytes`, ...), obtained once per layout by running the `setAt`s over explicit cells.  The RFC decoders, on
such a concatenation, give the fields back (`decodeTCP_bytes`, ...): `bits_row`, `be16_val` and `be32_val` do all the
arithmetic, so no proof further up hands nested `/ 256 % 256` terms to `omega`.  Where a layout has a checksum, both
lemmas spell the bytes as the fields before it, `be16 ck`, then the fields after it and the rest as one right-nested tail:
the `pre ++ be16 c ++ post` of `C15.verifies_fill`, so that C06 fills, sums and decodes one and the same term. -/
namespace Props.Hdr
open Model.Header Spec.Rfc

theorem cons_of_len {l : List Nat} {n : Nat} (h : n + 1 ≤ l.length) : ∃ a t, l = a :: t ∧ n ≤ t.length := by
  cases l with
  | nil => simp at h
  | cons a t => exact ⟨a, t, rfl, by simpa using h⟩

/-- Cell by cell: a `match l, h with` on a pattern of twenty cons cells makes the match compiler work through every
shorter list (some fifteen times the cost of `split8` and `split20`) and still leaves those cases to be refuted by hand. -/
theorem split8 (l : List Nat) (h : 8 ≤ l.length) :
    ∃ b0 b1 b2 b3 b4 b5 b6 b7 rest, l = b0 :: b1 :: b2 :: b3 :: b4 :: b5 :: b6 :: b7 :: rest ∧ l.length = rest.length + 8 := by
  obtain ⟨b0, l0, rfl, h0⟩ := cons_of_len h
  obtain ⟨b1, l1, rfl, h1⟩ := cons_of_len h0
  obtain ⟨b2, l2, rfl, h2⟩ := cons_of_len h1
  obtain ⟨b3, l3, rfl, h3⟩ := cons_of_len h2
  obtain ⟨b4, l4, rfl, h4⟩ := cons_of_len h3
  obtain ⟨b5, l5, rfl, h5⟩ := cons_of_len h4
  obtain ⟨b6, l6, rfl, h6⟩ := cons_of_len h5
  obtain ⟨b7, l7, rfl, _⟩ := cons_of_len h6
  exact ⟨_, _, _, _, _, _, _, _, l7, rfl, rfl⟩

theorem split20 (l : List Nat) (h : 20 ≤ l.length) :
    ∃ b0 b1 b2 b3 b4 b5 b6 b7 b8 b9 b10 b11 b12 b13 b14 b15 b16 b17 b18 b19 rest,
      l = b0 :: b1 :: b2 :: b3 :: b4 :: b5 :: b6 :: b7 :: b8 :: b9 :: b10 :: b11 :: b12 :: b13 :: b14 :: b15 :: b16 :: b17 :: b18 :: b19 :: rest := by
  obtain ⟨b0, b1, b2, b3, b4, b5, b6, b7, l7, rfl, h7⟩ := split8 l (by omega)
  obtain ⟨b8, b9, b10, b11, b12, b13, b14, b15, l15, rfl, h15⟩ := split8 l7 (by omega)
  obtain ⟨b16, l16, rfl, h16⟩ := cons_of_len (l := l15) (n := 3) (by omega)
  obtain ⟨b17, l17, rfl, h17⟩ := cons_of_len h16
  obtain ⟨b18, l18, rfl, h18⟩ := cons_of_len h17
  obtain ⟨b19, l19, rfl, _⟩ := cons_of_len h18
  exact ⟨_, _, _, _, _, _, _, _, _, _, _, _, _, _, _, _, _, _, _, _, l19, rfl⟩

theorem eq_of_length_four {l : List Nat} (h : l.length = 4) : ∃ a b c d, l = [a, b, c, d] := by
  match l, h with
  | [a, b, c, d], _ => exact ⟨_, _, _, _, rfl⟩

theorem eq_of_length_six {l : List Nat} (h : l.length = 6) : ∃ a b c d e f, l = [a, b, c, d, e, f] := by
  match l, h with
  | [a, b, c, d, e, f], _ => exact ⟨_, _, _, _, _, _, rfl⟩

theorem length_setAt (b vs : List Nat) (off : Nat) : (setAt b off vs).length = b.length := by
  simp only [setAt, List.length_append, List.length_take, List.length_drop]; omega

theorem setAt_cons_succ (x : Nat) (l vs : List Nat) (k : Nat) : setAt (x :: l) (k + 1) vs = x :: setAt l k vs := by
  simp [setAt, Nat.add_right_comm k 1 vs.length]

theorem setAt_zero_cons (x v : Nat) (l vs : List Nat) : setAt (x :: l) 0 (v :: vs) = v :: setAt l 0 vs := by
  simp [setAt]

theorem setAt_nil (l : List Nat) (k : Nat) : setAt l k [] = l := by
  simp [setAt]

theorem setAt_mid (p m s vs : List Nat) (k : Nat) (hk : p.length = k) (h : vs.length = m.length) :
    setAt (p ++ m ++ s) k vs = p ++ vs ++ s := by
  subst hk
  have : vs.take (m.length + s.length) = vs := List.take_of_length_le (by omega)
  simp [setAt, h, this]

theorem take_setAt_zero (b vs : List Nat) (h : vs.length ≤ b.length) : (setAt b 0 vs).take vs.length = vs := by
  simp [setAt, List.take_of_length_le h]

theorem rd8_app (b j : List Nat) (i : Nat) (h : i < b.length) : rd8 (b ++ j) i = rd8 b i := by
  unfold rd8; simp [List.getD, List.getElem?_append_left h]
theorem rd16_app (b j : List Nat) (i : Nat) (h : i + 1 < b.length) : rd16 (b ++ j) i = rd16 b i := by
  unfold rd16; rw [rd8_app _ _ _ (by omega), rd8_app _ _ _ h]
theorem rd32_app (b j : List Nat) (i : Nat) (h : i + 3 < b.length) : rd32 (b ++ j) i = rd32 b i := by
  unfold rd32; rw [rd8_app _ _ _ (by omega), rd8_app _ _ _ (by omega), rd8_app _ _ _ (by omega), rd8_app _ _ _ h]

theorem rd8_pre (pre l : List Nat) (k : Nat) : rd8 (pre ++ l) (pre.length + k) = rd8 l k := by
  unfold rd8; simp [List.getD, List.getElem?_append_right]
theorem rd16_pre (pre l : List Nat) (k : Nat) : rd16 (pre ++ l) (pre.length + k) = rd16 l k := by
  unfold rd16; rw [rd8_pre, Nat.add_assoc pre.length, rd8_pre]
theorem rd32_pre (pre l : List Nat) (k : Nat) : rd32 (pre ++ l) (pre.length + k) = rd32 l k := by
  unfold rd32; simp only [Nat.add_assoc pre.length, rd8_pre]

theorem mod256_lt (n : Nat) : n % 256 < 256 := Nat.mod_lt n (by decide)

theorem be16_val (v : Nat) (h : v < 65536) : v / 256 % 256 * 256 + v % 256 = v := by omega

theorem be32_val (v : Nat) (h : v < 4294967296) :
    v / 16777216 % 256 * 16777216 + v / 65536 % 256 * 65536 + v / 256 % 256 * 256 + v % 256 = v := by omega

/-- `rd16 (be16 v ++ rest) 0` unfolds to the arithmetic of `be16_val` whatever `rest` is; likewise for `rd32_be32` -/
theorem rd16_be16 (v : Nat) (rest : List Nat) (h : v < 65536) : rd16 (be16 v ++ rest) 0 = v :=
  be16_val v h

theorem rd32_be32 (v : Nat) (rest : List Nat) (h : v < 4294967296) : rd32 (be32 v ++ rest) 0 = v :=
  be32_val v h

theorem blocksBytes_length (l : List (Nat × Nat)) : (blocksBytes l).length = 8 * l.length := by
  induction l with
  | nil => rfl
  | cons x t ih => obtain ⟨a, b⟩ := x; simp [blocksBytes, be32, ih]; omega

theorem row_cons (a b c d : Nat) (t : List Nat) (k : Nat) : row (a :: b :: c :: d :: t) (k + 1) = row t k := by
  simp only [row, Nat.mul_add, Nat.mul_one, List.drop_succ_cons]

theorem row_zero (a b c d : Nat) (t : List Nat) : row (a :: b :: c :: d :: t) 0 = beVal [a, b, c, d] := rfl

/-- the finite form, for one row, of `bits (beVal l) (8 * l.length) (8 * i) (8 * n) = beVal ((l.drop i).take n)` (plus the
two nibbles of the first byte) -/
theorem bits_row (a b c d : Nat) (ha : a < 256) (hb : b < 256) (hc : c < 256) (hd : d < 256) :
    beVal [a, b, c, d] = a * 16777216 + b * 65536 + c * 256 + d ∧
    bits (beVal [a, b, c, d]) 32 0 16 = a * 256 + b ∧ bits (beVal [a, b, c, d]) 32 16 16 = c * 256 + d ∧
    bits (beVal [a, b, c, d]) 32 0 8 = a ∧ bits (beVal [a, b, c, d]) 32 8 8 = b ∧
    bits (beVal [a, b, c, d]) 32 16 8 = c ∧ bits (beVal [a, b, c, d]) 32 24 8 = d ∧
    bits (beVal [a, b, c, d]) 32 0 4 = a / 16 ∧ bits (beVal [a, b, c, d]) 32 4 4 = a % 16 := by
  simp only [beVal, bits, List.foldl_cons, List.foldl_nil, Nat.reduceSub, Nat.reducePow]
  omega

theorem bits_row_frag (a b c d : Nat) (hc : c < 256) (hd : d < 256) :
    bits (beVal [a, b, c, d]) 32 16 3 = (c * 256 + d) / 8192 ∧ bits (beVal [a, b, c, d]) 32 19 13 = (c * 256 + d) % 8192 := by
  simp only [beVal, bits, List.foldl_cons, List.foldl_nil, Nat.reduceSub, Nat.reducePow]
  omega

theorem tcpEncode_bytes (old : List Nat) (t : TCPFields) (hl : 20 ≤ old.length) :
    tcpEncode old t = be16 t.srcPort ++ be16 t.dstPort ++ be32 t.seq ++ be32 t.ack ++ [t.dataOffset / 4 * 16 % 256, t.flags] ++
      be16 t.window ++ be16 t.checksum ++ (be16 t.urgent ++ old.drop 20) := by
  obtain ⟨b0, b1, b2, b3, b4, b5, b6, b7, b8, b9, b10, b11, b12, b13, b14, b15, b16, b17, b18, b19, rest, rfl⟩ :=
    split20 old hl
  simp only [tcpEncode, be16, be32, setAt_cons_succ, setAt_zero_cons, setAt_nil, List.cons_append, List.nil_append,
    List.drop_succ_cons, List.drop_zero]

theorem decodeTCP_bytes (sp dp seq ack x fl w ck u : Nat) (rest : List Nat)
    (h1 : sp < 65536) (h2 : dp < 65536) (h3 : seq < 4294967296) (h4 : ack < 4294967296) (h5 : x < 256)
    (h6 : fl < 256) (h7 : w < 65536) (h8 : ck < 65536) (h9 : u < 65536) :
    decodeTCP (be16 sp ++ be16 dp ++ be32 seq ++ be32 ack ++ [x, fl] ++ be16 w ++ be16 ck ++ (be16 u ++ rest)) =
      some ⟨sp, dp, seq, ack, x / 16, x % 16, fl, w, ck, u⟩ := by
  obtain ⟨-, r0a, r0b, -⟩ := bits_row _ _ _ _ (mod256_lt (sp / 256)) (mod256_lt sp) (mod256_lt (dp / 256)) (mod256_lt dp)
  obtain ⟨r1, -⟩ := bits_row _ _ _ _ (mod256_lt (seq / 16777216)) (mod256_lt (seq / 65536)) (mod256_lt (seq / 256)) (mod256_lt seq)
  obtain ⟨r2, -⟩ := bits_row _ _ _ _ (mod256_lt (ack / 16777216)) (mod256_lt (ack / 65536)) (mod256_lt (ack / 256)) (mod256_lt ack)
  obtain ⟨-, -, r3w, -, r3f, -, -, r3o, r3r⟩ := bits_row _ _ _ _ h5 h6 (mod256_lt (w / 256)) (mod256_lt w)
  obtain ⟨-, r4a, r4b, -⟩ := bits_row _ _ _ _ (mod256_lt (ck / 256)) (mod256_lt ck) (mod256_lt (u / 256)) (mod256_lt u)
  unfold decodeTCP
  rw [if_neg]
  · simp only [be16, be32, List.cons_append, List.nil_append, row_cons, row_zero, r0a, r0b, r1, r2, r3w, r3f, r3o, r3r, r4a, r4b,
      be16_val _ h1, be16_val _ h2, be32_val _ h3, be32_val _ h4, be16_val _ h7, be16_val _ h8, be16_val _ h9]
  · simp [be16, be32]

/-- the first twelve bytes `ipv4Encode` writes, whatever the address fields hold -/
theorem ipv4Encode_head (old : List Nat) (f : IPv4Fields) (hl : 20 ≤ old.length) :
    ipv4Encode old f = [(64 + f.ihl / 4 % 16) % 256, f.tos] ++ be16 f.totalLength ++ be16 f.id ++
      be16 (((f.flags * 8192) % 65536) ||| (f.fragmentOffset / 8)) ++ [f.ttl, f.protocol] ++ be16 f.checksum ++
      setAt (setAt (old.drop 12) 0 (f.src.take 4)) 4 (f.dst.take 4) := by
  obtain ⟨b0, b1, b2, b3, b4, b5, b6, b7, b8, b9, b10, b11, b12, b13, b14, b15, b16, b17, b18, b19, rest, rfl⟩ :=
    split20 old hl
  simp only [ipv4Encode, be16, setAt_cons_succ, setAt_zero_cons, setAt_nil, List.cons_append, List.nil_append,
    List.drop_succ_cons, List.drop_zero]

theorem ipv4Encode_bytes (old : List Nat) (f : IPv4Fields) (hl : 20 ≤ old.length) (hs : f.src.length = 4) (hd : f.dst.length = 4) :
    ipv4Encode old f = [(64 + f.ihl / 4 % 16) % 256, f.tos] ++ be16 f.totalLength ++ be16 f.id ++
      be16 (((f.flags * 8192) % 65536) ||| (f.fragmentOffset / 8)) ++ [f.ttl, f.protocol] ++ be16 f.checksum ++
      (f.src ++ f.dst ++ old.drop 20) := by
  rw [ipv4Encode_head old f hl]
  obtain ⟨b0, b1, b2, b3, b4, b5, b6, b7, b8, b9, b10, b11, b12, b13, b14, b15, b16, b17, b18, b19, rest, rfl⟩ :=
    split20 old hl
  obtain ⟨s0, s1, s2, s3, hs'⟩ := eq_of_length_four hs
  obtain ⟨d0, d1, d2, d3, hd'⟩ := eq_of_length_four hd
  simp only [hs', hd', setAt_cons_succ, setAt_zero_cons, setAt_nil, List.cons_append, List.nil_append, List.append_assoc,
    List.drop_succ_cons, List.drop_zero, List.take_succ_cons, List.take_nil]

theorem decodeIPv4_bytes (vi tos tl id ff ttl pr ck : Nat) (src dst rest : List Nat)
    (h0 : vi < 256) (h1 : tos < 256) (h2 : tl < 65536) (h3 : id < 65536) (h4 : ff < 65536) (h5 : ttl < 256) (h6 : pr < 256)
    (h7 : ck < 65536) (hs : src.length = 4) (hd : dst.length = 4) :
    decodeIPv4 ([vi, tos] ++ be16 tl ++ be16 id ++ be16 ff ++ [ttl, pr] ++ be16 ck ++ (src ++ dst ++ rest)) =
      some ⟨vi / 16, vi % 16, tos, tl, id, ff / 8192, ff % 8192, ttl, pr, ck, src, dst⟩ := by
  obtain ⟨s0, s1, s2, s3, rfl⟩ := eq_of_length_four hs
  obtain ⟨d0, d1, d2, d3, rfl⟩ := eq_of_length_four hd
  obtain ⟨-, -, r0l, -, r0t, -, -, r0v, r0i⟩ := bits_row _ _ _ _ h0 h1 (mod256_lt (tl / 256)) (mod256_lt tl)
  obtain ⟨-, r1i, -⟩ := bits_row (id / 256 % 256) (id % 256) (ff / 256 % 256) (ff % 256) (mod256_lt _) (mod256_lt _) (mod256_lt _) (mod256_lt _)
  obtain ⟨r1f, r1o⟩ := bits_row_frag (id / 256 % 256) (id % 256) _ _ (mod256_lt (ff / 256)) (mod256_lt ff)
  obtain ⟨-, -, r2c, r2t, r2p, -⟩ := bits_row _ _ _ _ h5 h6 (mod256_lt (ck / 256)) (mod256_lt ck)
  unfold decodeIPv4
  rw [if_neg]
  · simp only [be16, List.cons_append, List.nil_append, row_cons, row_zero, List.drop_succ_cons, List.drop_zero,
      List.take_succ_cons, List.take_zero, r0l, r0t, r0v, r0i, r1i, r1f, r1o, r2c, r2t, r2p,
      be16_val _ h2, be16_val _ h3, be16_val _ h4, be16_val _ h7]
  · simp [be16]

theorem udpEncode_bytes (old : List Nat) (u : UDPFields) (hl : 8 ≤ old.length) :
    udpEncode old u = be16 u.srcPort ++ be16 u.dstPort ++ be16 u.length ++ be16 u.checksum ++ old.drop 8 := by
  obtain ⟨b0, b1, b2, b3, b4, b5, b6, b7, rest, rfl, -⟩ := split8 old hl
  simp only [udpEncode, be16, setAt_cons_succ, setAt_zero_cons, setAt_nil, List.cons_append, List.nil_append,
    List.drop_succ_cons, List.drop_zero]

theorem decodeUDP_bytes (sp dp len ck : Nat) (rest : List Nat)
    (h1 : sp < 65536) (h2 : dp < 65536) (h3 : len < 65536) (h4 : ck < 65536) :
    decodeUDP (be16 sp ++ be16 dp ++ be16 len ++ be16 ck ++ rest) = some ⟨sp, dp, len, ck⟩ := by
  obtain ⟨-, r0a, r0b, -⟩ := bits_row _ _ _ _ (mod256_lt (sp / 256)) (mod256_lt sp) (mod256_lt (dp / 256)) (mod256_lt dp)
  obtain ⟨-, r1a, r1b, -⟩ := bits_row _ _ _ _ (mod256_lt (len / 256)) (mod256_lt len) (mod256_lt (ck / 256)) (mod256_lt ck)
  unfold decodeUDP
  rw [if_neg]
  · simp only [be16, List.cons_append, List.nil_append, row_cons, row_zero, r0a, r0b, r1a, r1b,
      be16_val _ h1, be16_val _ h2, be16_val _ h3, be16_val _ h4]
  · simp [be16]

theorem ethEncode_bytes (old src dst : List Nat) (ty : Nat) (hl : 14 ≤ old.length) (hs : src.length = 6) (hd : dst.length = 6) :
    ethEncode old src dst ty = dst ++ src ++ be16 ty ++ old.drop 14 := by
  obtain ⟨b0, b1, b2, b3, b4, b5, b6, b7, l7, rfl, h7⟩ := split8 old (by omega)
  obtain ⟨b8, l8, rfl, h8⟩ := cons_of_len (l := l7) (n := 5) (by omega)
  obtain ⟨b9, l9, rfl, h9⟩ := cons_of_len h8
  obtain ⟨b10, l10, rfl, h10⟩ := cons_of_len h9
  obtain ⟨b11, l11, rfl, h11⟩ := cons_of_len h10
  obtain ⟨b12, l12, rfl, h12⟩ := cons_of_len h11
  obtain ⟨b13, l13, rfl, _⟩ := cons_of_len h12
  obtain ⟨s0, s1, s2, s3, s4, s5, rfl⟩ := eq_of_length_six hs
  obtain ⟨d0, d1, d2, d3, d4, d5, rfl⟩ := eq_of_length_six hd
  simp only [ethEncode, be16, setAt_cons_succ, setAt_zero_cons, setAt_nil, List.cons_append, List.nil_append,
    List.drop_succ_cons, List.drop_zero, List.take_succ_cons, List.take_nil]

theorem decodeEth_bytes (src dst rest : List Nat) (ty : Nat) (hs : src.length = 6) (hd : dst.length = 6) (ht : ty < 65536) :
    decodeEth (dst ++ src ++ be16 ty ++ rest) = some ⟨dst, src, ty⟩ := by
  obtain ⟨s0, s1, s2, s3, s4, s5, rfl⟩ := eq_of_length_six hs
  obtain ⟨d0, d1, d2, d3, d4, d5, rfl⟩ := eq_of_length_six hd
  unfold decodeEth
  rw [if_neg]
  · simp only [be16, List.cons_append, List.nil_append, List.drop_succ_cons, List.drop_zero, List.take_succ_cons,
      List.take_zero, beVal, List.foldl_cons, List.foldl_nil, Nat.zero_mul, Nat.zero_add, be16_val _ ht]
  · simp [be16]

theorem arpIsValid_length (pkt : List Nat) (h : arpIsValid pkt = true) : 28 ≤ pkt.length := by
  unfold arpIsValid at h
  split at h
  · simp at h
  · omega

/-- the buffer is `List.replicate 28 0` as in `arpHandle`; `arpPacket`'s `Model.Wire.zeros 28` unfolds to it -/
theorem decodeARP_arpBuild (op : Nat) (sha spa tha tpa : List Nat) (hop : op < 65536)
    (h1 : sha.length = 6) (h2 : spa.length = 4) (h3 : tha.length = 6) (h4 : tpa.length = 4) :
    decodeARP (arpBuild (List.replicate 28 0) op sha spa tha tpa) = some ⟨1, 0x0800, 6, 4, op, sha, spa, tha, tpa⟩ := by
  obtain ⟨a0, a1, a2, a3, a4, a5, rfl⟩ := eq_of_length_six h1
  obtain ⟨b0, b1, b2, b3, rfl⟩ := eq_of_length_four h2
  obtain ⟨c0, c1, c2, c3, c4, c5, rfl⟩ := eq_of_length_six h3
  obtain ⟨d0, d1, d2, d3, rfl⟩ := eq_of_length_four h4
  simp [arpBuild, setAt, be16, decodeARP, beVal]
  omega

end Props.Hdr
