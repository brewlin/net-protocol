import NetProto.Props.ByteLemmas
/-!
# C15 (continued) — TCP option parsers: they never read outside their input and invert the encoders

One induction per parser, its window lemma: started at `pre.length + i` with its limit at the end of `b`, the parser
does on `pre ++ (b ++ j)` what it does on `b` alone from `i`.  With nothing in front that is "never reads outside its
input".  With nothing behind, one iteration can be stated on an encoded option at the head of the input (`parseSyn_step`,
`parseTCP_step`: the loop's tests evaluated on those bytes, then the window lemma to go on behind them), and a parser
that eats one item per unit of fuel gets through any concatenation, whatever follows it (`loop_items`).
-/
namespace C15
open Model.Header Props.Hdr

theorem parseSyn_window (pre b j : List Nat) (isAck : Bool) (fuel i : Nat) (so : SynOpts) :
    parseSynAux (pre ++ (b ++ j)) (pre.length + b.length) isAck fuel (pre.length + i) so =
      parseSynAux b b.length isAck fuel i so := by
  induction fuel generalizing i so with
  | zero => simp [parseSynAux]
  | succ n ih =>
    unfold parseSynAux
    by_cases hi : i < b.length
    · -- a read behind `pre` is a read in `b ++ j` whatever the index; under the guards that is a read in `b`
      simp only [hi, if_true, Nat.add_lt_add_iff_left, Nat.add_assoc, ih, rd8_pre, rd16_pre, rd32_pre]
      rw [rd8_app b j i hi]
      grind [rd8_app, rd16_app, rd32_app]
    · simp [hi]

/-- **`ParseSynOptions` never reads outside its input**: whatever bytes follow the option area in memory (`j`), the
result is the same: the Go function given a sub-slice of a longer buffer.  (Totality is not a theorem: the model is a
total function whose reads are exactly the Go reads, each guarded by the same test.) -/
theorem parseSyn_inbounds (b j : List Nat) (isAck : Bool) (fuel i : Nat) (so : SynOpts) :
    parseSynAux (b ++ j) b.length isAck fuel i so = parseSynAux b b.length isAck fuel i so := by
  simpa using parseSyn_window [] b j isAck fuel i so

theorem readBlocks_window (pre b j : List Nat) (base n : Nat) (h : base + 8 * n ≤ b.length) :
    readBlocks (pre ++ (b ++ j)) (pre.length + base) n = readBlocks b base n := by
  induction n generalizing base with
  | zero => simp [readBlocks]
  | succ k ih =>
    unfold readBlocks
    rw [Nat.add_assoc, Nat.add_assoc, rd32_pre, rd32_pre, rd32_app _ _ _ (by omega), rd32_app _ _ _ (by omega), ih _ (by omega)]

theorem parseTCP_window (pre b j : List Nat) (fuel i : Nat) (o : TCPOpts) :
    parseTCPAux (pre ++ (b ++ j)) (pre.length + b.length) fuel (pre.length + i) o = parseTCPAux b b.length fuel i o := by
  induction fuel generalizing i o with
  | zero => simp [parseTCPAux]
  | succ n ih =>
    unfold parseTCPAux
    by_cases hi : i < b.length
    · simp only [hi, if_true, Nat.add_lt_add_iff_left, Nat.add_assoc, ih, rd8_pre, rd32_pre]
      rw [rd8_app b j i hi]
      -- the SACK branch reads `(l - 2) / 8` blocks from `i + 2`: inside `b` once `i + l ≤ b.length` and `2 ≤ l`
      by_cases h2 : i + 2 > b.length
      · grind [rd8_app, rd32_app]
      · rw [rd8_app b j (i + 1) (by omega)]
        by_cases hl : i + rd8 b (i + 1) > b.length
        · grind [rd8_app, rd32_app]
        · by_cases hl2 : rd8 b (i + 1) < 2
          · grind [rd8_app, rd32_app]
          · rw [readBlocks_window pre b j (i + 2) _ (by omega)]
            grind [rd8_app, rd32_app]
    · simp [hi]

/-- **`ParseTCPOptions` never reads outside its input** (same form of statement). -/
theorem parseTCP_inbounds (b j : List Nat) (fuel i : Nat) (o : TCPOpts) :
    parseTCPAux (b ++ j) b.length fuel i o = parseTCPAux b b.length fuel i o := by
  simpa using parseTCP_window [] b j fuel i o

/-- the options a SYN can carry, as the encoders of `protocol/header` write them -/
inductive SOpt
  | nop | mss (v : Nat) | ws (v : Nat) | ts (v e : Nat) | sackPerm
deriving Repr, DecidableEq

def SOpt.bytes : SOpt → List Nat
  | .nop => [1]
  | .mss v => [2, 4, v / 256 % 256, v % 256]
  | .ws v => [3, 3, v % 256]
  | .ts v e => [8, 10] ++ be32 v ++ be32 e
  | .sackPerm => [4, 2]

/-- well-formedness: what the encoders can be given (MSS 0 is not a valid MSS) -/
def SOpt.ok : SOpt → Prop
  | .nop => True
  | .mss v => 0 < v ∧ v < 65536
  | .ws v => v < 256
  | .ts v e => v < 4294967296 ∧ e < 4294967296
  | .sackPerm => True

def SOpt.apply (isAck : Bool) (so : SynOpts) : SOpt → SynOpts
  | .nop => so
  | .mss v => { so with mss := v }
  | .ws v => { so with ws := if v > 14 then 14 else v }
  | .ts v e => { so with ts := true, tsVal := v, tsEcr := if isAck then e else so.tsEcr }
  | .sackPerm => { so with sackPermitted := true }

theorem encoders_write (v e : Nat) (buf : List Nat) (h : 10 ≤ buf.length) :
    (encodeMSS v buf).1.take 4 = (SOpt.mss v).bytes ∧ (encodeMSS v buf).2 = 4 ∧
    (encodeWS v buf).1.take 3 = (SOpt.ws v).bytes ∧ (encodeWS v buf).2 = 3 ∧
    (encodeTS v e buf).1.take 10 = (SOpt.ts v e).bytes ∧ (encodeTS v e buf).2 = 10 ∧
    (encodeSACKPermitted buf).1.take 2 = SOpt.sackPerm.bytes ∧ (encodeSACKPermitted buf).2 = 2 := by
  rw [encodeMSS, encodeWS, encodeTS, encodeSACKPermitted, if_neg (by omega), if_neg (by omega), if_neg (by omega),
    if_neg (by omega)]
  exact ⟨take_setAt_zero buf (SOpt.mss v).bytes (Nat.le_trans (by simp [SOpt.bytes]) h), rfl,
    take_setAt_zero buf (SOpt.ws v).bytes (Nat.le_trans (by simp [SOpt.bytes]) h), rfl,
    take_setAt_zero buf (SOpt.ts v e).bytes (Nat.le_trans (by simp [SOpt.bytes, be32]) h), rfl,
    take_setAt_zero buf SOpt.sackPerm.bytes (Nat.le_trans (by simp [SOpt.bytes]) h), rfl⟩

/-- a parser that, given one unit of fuel, consumes one encoded item from the front of its input gets through any
concatenation of items, whatever follows them (`P input fuel state`) -/
theorem loop_items {O S : Type} (bytes : O → List Nat) (apply : S → O → S) (ok : O → Prop) (P : List Nat → Nat → S → S)
    (hstep : ∀ (rest : List Nat) (o : O) (n : Nat) (s : S), ok o → P (bytes o ++ rest) (n + 1) s = P rest n (apply s o))
    (os : List O) (hok : ∀ o ∈ os, ok o) (rest : List Nat) (n : Nat) (s : S) :
    P (os.flatMap bytes ++ rest) (os.length + n) s = P rest n (os.foldl apply s) := by
  induction os generalizing s with
  | nil => rw [List.length_nil, Nat.zero_add]; rfl
  | cons o t ih =>
    rw [List.flatMap_cons, List.append_assoc, List.length_cons, Nat.add_right_comm, hstep _ o _ s (hok o (by simp)),
      ih (fun x hx => hok x (by simp [hx])), List.foldl_cons]

theorem length_lt_flatMap {O : Type} (bytes : O → List Nat) (h : ∀ o, 1 ≤ (bytes o).length) (os : List O) :
    os.length < (os.flatMap bytes).length + 1 := by
  induction os with
  | nil => simp
  | cons o t ih =>
    have := h o
    simp only [List.flatMap_cons, List.length_append, List.length_cons]
    omega

theorem parseSyn_step (isAck : Bool) (rest : List Nat) (o : SOpt) (n : Nat) (so : SynOpts) (hot : o.ok) :
    parseSynAux (o.bytes ++ rest) (o.bytes ++ rest).length isAck (n + 1) 0 so =
      parseSynAux rest rest.length isAck n 0 (SOpt.apply isAck so o) := by
  have hw := parseSyn_window o.bytes rest [] isAck n 0 (SOpt.apply isAck so o)
  rw [List.append_nil, ← List.length_append] at hw
  rw [← hw, parseSynAux]
  cases o with
  | nop => simp +arith [SOpt.bytes, SOpt.apply, rd8]
  | mss v => simp +arith [SOpt.bytes, SOpt.apply, rd8, rd16, be16_val v hot.2, Nat.ne_of_gt hot.1]
  | ws v => by_cases h14 : 14 < v <;> simp +arith [SOpt.bytes, SOpt.apply, rd8, Nat.mod_eq_of_lt hot, h14]
  | ts v e => cases isAck <;> simp +arith [SOpt.bytes, SOpt.apply, rd8, rd32, be32, be32_val v hot.1, be32_val e hot.2]
  | sackPerm => simp +arith [SOpt.bytes, SOpt.apply, rd8]

/-- **`ParseSynOptions` recovers every option the encoders produced** (any sequence, any values in range). -/
theorem parseSyn_encode (os : List SOpt) (hok : ∀ o ∈ os, o.ok) (isAck : Bool) :
    parseSynOptions (os.flatMap SOpt.bytes) isAck = os.foldl (SOpt.apply isAck) {} := by
  obtain ⟨k, hk⟩ := Nat.exists_eq_add_of_lt (length_lt_flatMap SOpt.bytes (fun o => by cases o <;> simp [SOpt.bytes, be32]) os)
  have := loop_items SOpt.bytes (SOpt.apply isAck) SOpt.ok (fun b fuel so => parseSynAux b b.length isAck fuel 0 so)
    (parseSyn_step isAck) os hok [] (k + 1) {}
  rw [List.append_nil] at this
  rw [parseSynOptions, hk]
  exact this.trans (by rw [parseSynAux]; rfl)

example : parseSynOptions ([SOpt.mss 1460, .sackPerm, .ts 7 9, .nop, .ws 7].flatMap SOpt.bytes) true =
    { mss := 1460, ws := 7, ts := true, tsVal := 7, tsEcr := 9, sackPermitted := true } := by decide

inductive TOpt
  | nop | ts (v e : Nat) | sack (blocks : List (Nat × Nat))
deriving Repr, DecidableEq

def TOpt.bytes : TOpt → List Nat
  | .nop => [1]
  | .ts v e => [8, 10] ++ be32 v ++ be32 e
  | .sack bl => [5, bl.length * 8 + 2] ++ blocksBytes bl

/-- at most four blocks, as `EncodeSACKBlocks` writes; that also keeps the length byte `bl.length * 8 + 2` of
`TOpt.bytes`, a raw `Nat`, below 256 -/
def TOpt.ok : TOpt → Prop
  | .nop => True
  | .ts v e => v < 4294967296 ∧ e < 4294967296
  | .sack bl => 1 ≤ bl.length ∧ bl.length ≤ 4 ∧ ∀ x ∈ bl, x.1 < 4294967296 ∧ x.2 < 4294967296

def TOpt.apply (o : TCPOpts) : TOpt → TCPOpts
  | .nop => o
  | .ts v e => { o with ts := true, tsVal := v, tsEcr := e }
  | .sack bl => { o with sack := some bl }

theorem encodeSACK_writes (bl : List (Nat × Nat)) (buf : List Nat) (h1 : 1 ≤ bl.length) (h4 : bl.length ≤ 4)
    (hb : 34 ≤ buf.length) :
    (encodeSACKBlocks bl buf).2 = bl.length * 8 + 2 ∧
    (encodeSACKBlocks bl buf).1.take (bl.length * 8 + 2) = (TOpt.sack bl).bytes := by
  have e0 : ¬ bl.length = 0 := by omega
  have emin : min bl.length 4 = bl.length := by omega
  have ell : ¬ (buf.length - 2) / 8 < bl.length := by omega
  have hmod : (bl.length * 8 + 2) % 256 = bl.length * 8 + 2 := by omega
  have hres : encodeSACKBlocks bl buf = (setAt buf 0 (TOpt.sack bl).bytes, bl.length * 8 + 2) := by
    unfold encodeSACKBlocks
    simp only [e0, if_false, emin, ell, hmod, List.take_length, TOpt.bytes]
  have hl : (TOpt.sack bl).bytes.length = bl.length * 8 + 2 := by simp [TOpt.bytes, blocksBytes_length]; omega
  rw [hres]
  exact ⟨rfl, hl ▸ take_setAt_zero buf _ (by omega)⟩

theorem readBlocks_bytes (rest : List Nat) (bl : List (Nat × Nat))
    (h : ∀ x ∈ bl, x.1 < 4294967296 ∧ x.2 < 4294967296) :
    readBlocks (blocksBytes bl ++ rest) 0 bl.length = bl := by
  induction bl with
  | nil => rfl
  | cons x t ih =>
    obtain ⟨a, b⟩ := x
    have hx := h (a, b) (by simp)
    have hw := readBlocks_window (be32 a ++ be32 b) (blocksBytes t ++ rest) [] 0 t.length (by simp [blocksBytes_length])
    rw [List.append_nil, ih (fun y hy => h y (by simp [hy]))] at hw
    rw [List.length_cons, readBlocks, blocksBytes, List.append_assoc, show 0 + 8 = (be32 a ++ be32 b).length + 0 from rfl, hw]
    simp [rd32, rd8, be32, be32_val a hx.1, be32_val b hx.2]

theorem parseTCP_step (rest : List Nat) (x : TOpt) (n : Nat) (o : TCPOpts) (hot : x.ok) :
    parseTCPAux (x.bytes ++ rest) (x.bytes ++ rest).length (n + 1) 0 o =
      parseTCPAux rest rest.length n 0 (TOpt.apply o x) := by
  have hw := parseTCP_window x.bytes rest [] n 0 (TOpt.apply o x)
  rw [List.append_nil, ← List.length_append] at hw
  rw [← hw, parseTCPAux]
  cases x with
  | nop => simp +arith [TOpt.bytes, TOpt.apply, rd8]
  | ts v e => simp +arith [TOpt.bytes, TOpt.apply, rd8, rd32, be32, be32_val v hot.1, be32_val e hot.2]
  | sack bl =>
    have hrb : ∀ y, readBlocks (5 :: y :: (blocksBytes bl ++ rest)) 2 bl.length = bl := fun y => by
      simpa [readBlocks_bytes rest bl hot.2.2] using
        readBlocks_window [5, y] (blocksBytes bl ++ rest) [] 0 bl.length (by simp [blocksBytes_length])
    -- `(l - 2) / 8` with `l` the length byte gives back the number of blocks
    simp +arith [TOpt.bytes, TOpt.apply, rd8, blocksBytes_length, hrb]

/-- **`ParseTCPOptions` recovers timestamps and every SACK block `EncodeSACKBlocks` wrote.** -/
theorem parseTCP_encode (os : List TOpt) (hok : ∀ o ∈ os, o.ok) :
    parseTCPOptions (os.flatMap TOpt.bytes) = os.foldl TOpt.apply {} := by
  obtain ⟨k, hk⟩ := Nat.exists_eq_add_of_lt (length_lt_flatMap TOpt.bytes (fun o => by cases o <;> simp [TOpt.bytes, be32]) os)
  have := loop_items TOpt.bytes TOpt.apply TOpt.ok (fun b fuel o => parseTCPAux b b.length fuel 0 o) parseTCP_step os hok []
    (k + 1) {}
  rw [List.append_nil] at this
  rw [parseTCPOptions, hk]
  exact this.trans (by rw [parseTCPAux]; rfl)

example : parseTCPOptions ([TOpt.nop, .nop, .ts 5 6, .nop, .nop, .sack [(100, 200), (4294967295, 3)]].flatMap TOpt.bytes) =
    { ts := true, tsVal := 5, tsEcr := 6, sack := some [(100, 200), (4294967295, 3)] } := by decide

theorem padding_aligned (off : Nat) : (off + padCount off) % 4 = 0 ∧ padCount off < 4 := by
  unfold padCount; omega

end C15
