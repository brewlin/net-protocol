import NetProto.Model.TcpStack
/-! Helper: an invariant of single endpoints that every endpoint handler maintains, under an assumption `Q` on the
incoming segments (for instance: the acknowledgement number is a 32-bit value, as on the wire), holds of every endpoint
of every stack state reachable by a history whose segments satisfy `Q`.  `TcpReach` is the case without an assumption. -/
namespace Props.TcpReachQ
open Model.Tcp

/-- `dflt` and `failed` are demanded only because the stack registers such endpoints: `connectStep` pads `eps` with
`default`, and a failed active open leaves `failedEp` in its slot. -/
structure EpInvQ (Q : InSeg → Prop) (P : Ep → Prop) : Prop where
  fresh : ∀ iss irs sndWnd mss sws rcvWnd rws mtu rb sb ts rts sp,
    P (newEp iss irs sndWnd mss sws rcvWnd rws mtu rb sb ts rts sp)
  dflt : P default
  failed : ∀ err, P (failedEp err)
  segs : ∀ e l, (∀ s ∈ l, Q s) → P e → P (handleSegments e l).1
  write : ∀ e d, P e → P (appWrite e d).1
  read : ∀ e, P e → P (appRead e).1
  shut : ∀ e, P e → P (appShutdownWrite e).1
  timer : ∀ e, P e → P (timerEvent e).1

/-- the endpoints the stack knows: connected, or waiting in the accept queue with the segments queued for them -/
def StAllQ (Q : InSeg → Prop) (P : Ep → Prop) (st : St) : Prop :=
  (∀ x ∈ st.eps, P x.2) ∧ (∀ x ∈ st.acceptQ, P x.2.1 ∧ ∀ s ∈ x.2.2.1, Q s)

def OpOk (Q : InSeg → Prop) : Op → Prop
  | .seg _ _ s _ => Q s
  | _ => True

variable {Q : InSeg → Prop} {P : Ep → Prop}

theorem setEp_all (st : St) (i p : Nat) (e : Ep) (h : StAllQ Q P st) (he : P e) : StAllQ Q P (setEp st i p e) := by
  refine ⟨?_, h.2⟩
  intro x hx
  rcases List.mem_or_eq_of_mem_set hx with hx | hx
  · exact h.1 x hx
  · subst hx; exact he

theorem append_all (st : St) (y : Nat × Ep × List InSeg × Nat) (h : StAllQ Q P st) (hy : P y.2.1) (hq : ∀ s ∈ y.2.2.1, Q s) :
    ∀ x ∈ st.acceptQ ++ [y], P x.2.1 ∧ ∀ s ∈ x.2.2.1, Q s := by
  intro x hx
  simp only [List.mem_append, List.mem_singleton] at hx
  rcases hx with hx | hx
  · exact h.2 x hx
  · subst hx; exact ⟨hy, hq⟩

theorem listenStep_all (hP : EpInvQ Q P) (st : St) (sp : Nat) (seg : InSeg) (l : Nat) (h : StAllQ Q P st) :
    StAllQ Q P (listenStep st sp seg l).1 := by
  -- cases in the branch order of `listenStep` (3: an acknowledgement matches a cookie), binders positional
  fun_cases listenStep st sp seg l
  case case3 => exact ⟨h.1, append_all st _ h (hP.fresh ..) (fun s hs => by simp at hs)⟩
  all_goals exact h

theorem activeSeg_all (hP : EpInvQ Q P) (st : St) (i : Nat) (hs : Hs) (sp : Nat) (seg : InSeg) (l : Nat)
    (h : StAllQ Q P st) : StAllQ Q P (activeSeg st i hs sp seg l).1 := by
  fun_cases activeSeg st i hs sp seg l
  · exact ⟨(setEp_all _ _ _ _ h (hP.fresh ..)).1, h.2⟩
  · exact ⟨(setEp_all _ _ _ _ h (hP.failed _)).1, h.2⟩
  · exact h

theorem passiveSeg_all (hP : EpInvQ Q P) (st : St) (hs : Hs) (sp : Nat) (seg : InSeg) (l : Nat)
    (h : StAllQ Q P st) : StAllQ Q P (passiveSeg st hs sp seg l).1 := by
  fun_cases passiveSeg st hs sp seg l
  case case1 => exact ⟨h.1, append_all st _ h (hP.fresh ..) (fun s hs => by simp at hs)⟩
  all_goals exact h

theorem find_zipIdx_mem {α} {l : List α} {p : α × Nat → Bool} {x : α × Nat} (h : l.zipIdx.find? p = some x) : x.1 ∈ l := by
  obtain ⟨a, i⟩ := x
  have := List.mem_zipIdx (List.mem_of_find?_eq_some h)
  simp at this
  rw [this.2]
  exact List.getElem_mem _

theorem queueSeg_all (st : St) (sp : Nat) (seg : InSeg) (h : StAllQ Q P st) (hq : Q seg) : StAllQ Q P (queueSeg st sp seg) := by
  refine ⟨h.1, ?_⟩
  intro x hx
  simp only [queueSeg, List.mem_map] at hx
  obtain ⟨y, hy, rfl⟩ := hx
  have := h.2 y hy
  split
  · refine ⟨this.1, ?_⟩
    intro s hs
    simp only [List.mem_append, List.mem_singleton] at hs
    rcases hs with hs | hs
    · exact this.2 s hs
    · subst hs; exact hq
  · exact this

theorem segStep_all (hP : EpInvQ Q P) (st : St) (sp dp : Nat) (seg : InSeg) (l : Nat) (h : StAllQ Q P st) (hq : Q seg) :
    StAllQ Q P (segStep st sp dp seg l).1 := by
  fun_cases segStep st sp dp seg l
  case case3 x heq _ _ =>
    exact setEp_all _ _ _ _ h (hP.segs _ _ (fun s hs => by simp only [List.mem_singleton] at hs; subst hs; exact hq)
      (h.1 _ (find_zipIdx_mem heq)))
  case case4 => exact activeSeg_all hP _ _ _ _ _ _ h
  case case5 => exact passiveSeg_all hP _ _ _ _ _ h
  case case6 => exact listenStep_all hP _ _ _ _ h
  case case7 => exact queueSeg_all _ _ _ h hq
  all_goals exact h

theorem acceptStep_all (hP : EpInvQ Q P) (st : St) (r) (h : StAllQ Q P st) (hr : acceptStep st = some r) :
    StAllQ Q P r.1 := by
  unfold acceptStep at hr
  split at hr
  · cases hr
  · rename_i x rest heq
    cases hr
    have hx := h.2 x (by rw [heq]; exact List.mem_cons_self)
    constructor
    · intro y hy
      simp only [List.mem_append, List.mem_singleton] at hy
      rcases hy with hy | hy
      · exact h.1 y hy
      · subst hy
        exact hP.segs _ _ hx.2 hx.1
    · intro y hy
      exact h.2 y (by rw [heq]; exact List.mem_cons_of_mem _ hy)

theorem connectStep_all (hP : EpInvQ Q P) (st : St) (i iss : Nat) (h : StAllQ Q P st) :
    StAllQ Q P (connectStep st i iss).1 := by
  unfold connectStep
  refine ⟨?_, h.2⟩
  intro x hx
  simp only [List.mem_append, List.mem_replicate] at hx
  rcases hx with hx | ⟨_, hx⟩
  · exact h.1 x hx
  · subst hx; exact hP.dflt

theorem stackStep_all (hP : EpInvQ Q P) (st : St) (op : Op) (h : StAllQ Q P st) (hq : OpOk Q op) : StAllQ Q P (stackStep st op).1 := by
  cases op with
  | listen => exact h
  | cookieMode on => exact h
  | connect i iss => exact connectStep_all hP _ _ _ h
  | seg sp dp s l => exact segStep_all hP _ _ _ _ _ h hq
  | accept =>
    simp only [stackStep]
    split
    · rename_i r hr; exact acceptStep_all hP st r h hr
    · exact h
  | write i d =>
    simp only [stackStep, writeStep]
    cases he : st.eps[i]? with
    | none => exact h
    | some x => exact setEp_all _ _ _ _ h (hP.write _ _ (h.1 _ (List.mem_of_getElem? he)))
  | read i =>
    simp only [stackStep, readStep]
    cases he : st.eps[i]? with
    | none => exact h
    | some x => exact setEp_all _ _ _ _ h (hP.read _ (h.1 _ (List.mem_of_getElem? he)))
  | timer i =>
    simp only [stackStep, timerStep]
    cases he : st.eps[i]? with
    | none => exact h
    | some x => exact setEp_all _ _ _ _ h (hP.timer _ (h.1 _ (List.mem_of_getElem? he)))
  | shutdownWrite i =>
    simp only [stackStep, shutdownStep]
    cases he : st.eps[i]? with
    | none => exact h
    | some x =>
      cases hc : x.2.state != .connected <;> simp only [hc, Bool.false_eq_true, ↓reduceIte]
      · exact setEp_all _ _ _ _ h (hP.shut _ (h.1 _ (List.mem_of_getElem? he)))
      · exact h

theorem run_induct {I : St → Prop} {A : Op → Prop} (c : Cfg) (h0 : I { cfg := c })
    (hstep : ∀ st op, A op → I st → I (stackStep st op).1) (ops : List Op) (hops : ∀ op ∈ ops, A op) : I (run c ops).1 :=
  List.foldlRecOn ops _ (motive := fun acc : St × List OutSeg => I acc.1) h0 fun acc h op hop => hstep acc.1 op (hops op hop) h

theorem run_allQ (hP : EpInvQ Q P) (c : Cfg) (ops : List Op) (hops : ∀ op ∈ ops, OpOk Q op) : StAllQ Q P (run c ops).1 :=
  run_induct c ⟨fun _ hx => by simp at hx, fun _ hx => by simp at hx⟩ (fun st op hq h => stackStep_all hP st op h hq) ops hops

end Props.TcpReachQ
