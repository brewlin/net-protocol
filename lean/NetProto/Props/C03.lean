import NetProto.Props.TcpLemmas
import NetProto.Props.TcpShape
/-! # C03 — connections exist only after a correct handshake; strays are reset

Model: the handshake machine `Hs.handle` of `Model/Tcp.lean` and the stack of `Model/TcpStack.lean` (demultiplexer,
listener in normal and SYN-cookie mode, accept queue), tied to the real stack by the trace correspondence of the TCP
world. -/
namespace Props.C03
open Model.Tcp Props.TcpFrame Props.TcpReach Props.TcpShape

/-- `handshake.handleSegment`: the only way into `completed` is no RST, an ACK of exactly `iss + 1` and, in `synSent`, a SYN -/
theorem handle_completed (h : Hs) (s : InSeg) (n : Nat) (hne : h.state ≠ .completed)
    (hc : (h.handle s n).1.state = .completed) :
    has s.flags fRst = false ∧ has s.flags fAck = true ∧ s.ack = addS h.iss 1 ∧
      (h.state = .synSent → has s.flags fSyn = true) := by
  have ack : ∀ r : OutSeg, (if (has s.flags fAck && s.ack != addS h.iss 1) = true then some r else none) = none →
      has s.flags fAck = true → s.ack = addS h.iss 1 := fun r hk ha => by simpa [ha] using hk
  -- cases in the branch order of `Hs.handle` (5 and 13 are the two ways into `completed`), binders positional
  revert hc
  fun_cases Hs.handle h s n
  case case5 hr hk hy _ _ _ _ ha _ => exact fun _ => ⟨by simpa using hr, ha, ack _ hk ha, fun _ => by simpa using hy⟩
  case case13 x hr hk _ ha _ _ =>
    exact fun _ => ⟨by simpa using hr, ha, ack _ hk ha, fun hs => nomatch hs.symm.trans x⟩
  case case1 | case6 | case7 | case10 | case11 => exact fun hc => nomatch hc
  all_goals exact fun hc => absurd hc hne

theorem completes_only_on_exact_ack (h : Hs) (s : InSeg) (n : Nat)
    (hne : h.state ≠ .completed) (hc : (h.handle s n).1.state = .completed) :
    has s.flags fAck = true ∧ s.ack = addS h.iss 1 ∧ has s.flags fRst = false :=
  have c := handle_completed h s n hne hc
  ⟨c.2.1, c.2.2.1, c.1⟩

/-- no entry of the table of handshakes in progress is a completed one -/
def HsInv (st : St) : Prop := ∀ x ∈ st.hs, x.2.state ≠ .completed

theorem no_socket_reset (st : St) (sp dp : Nat) (seg : InSeg) (l : Nat) (hp : dp ≠ listenPort)
    (hr : has seg.flags fRst = false) :
    segStep st sp dp seg l =
      (st, [⟨fRst ||| fAck, (if has seg.flags fAck then seg.ack else 0), addS seg.seq seg.logicalLen, 0, [], []⟩]) := by
  unfold segStep
  simp [hp, rstOut, replyWithReset, hr]

theorem listenStep_grow (st : St) (sp : Nat) (seg : InSeg) (l : Nat)
    (hg : (listenStep st sp seg l).1.acceptQ.length ≠ st.acceptQ.length) :
    seg.flags = fAck ∧ ∃ c ∈ st.cookies, cookieMatches sp seg c = true := by
  -- case 3: an acknowledgement matches a cookie
  revert hg
  fun_cases listenStep st sp seg l
  case case3 hf c hc => exact fun _ => ⟨by simpa using hf, c, List.mem_of_find?_eq_some hc, List.find?_some hc⟩
  all_goals exact fun hg => absurd rfl hg

/-- the accept queue grows only by the exact acknowledgement of a handshake in progress or (SYN-cookie mode) by one that
passes the cookie test -/
theorem accept_queue_grows_only_by_handshake (st : St) (hinv : HsInv st) (sp dp : Nat) (seg : InSeg) (l : Nat)
    (hg : (segStep st sp dp seg l).1.acceptQ.length ≠ st.acceptQ.length) :
    has seg.flags fAck = true ∧
      ((∃ x ∈ st.hs, x.1 = sp ∧ seg.ack = addS x.2.iss 1 ∧ has seg.flags fRst = false) ∨
       (∃ c ∈ st.cookies, cookieMatches sp seg c = true)) := by
  revert hg
  fun_cases segStep st sp dp seg l
  case case4 ih _ => fun_cases activeSeg st ih.1 ih.2 sp seg l <;> exact fun hg => absurd rfl hg
  case case5 ph hph =>
    fun_cases passiveSeg st ph.2 sp seg l
    case case1 hc =>
      have hm : ph ∈ st.hs := List.mem_of_find?_eq_some hph
      have := completes_only_on_exact_ack ph.2 seg l (hinv ph hm) (by simpa using hc)
      exact fun _ => ⟨this.1, .inl ⟨ph, hm, by simpa using List.find?_some hph, this.2.1, this.2.2⟩⟩
    all_goals exact fun hg => absurd rfl hg
  case case6 =>
    intro hg
    have := listenStep_grow st sp seg l hg
    exact ⟨by rw [this.1]; decide, .inr this.2⟩
  case case7 => exact fun hg => absurd (List.length_map _) hg
  all_goals exact fun hg => absurd rfl hg

theorem listenStep_hsInv (st : St) (sp : Nat) (seg : InSeg) (l : Nat) (h : HsInv st) : HsInv (listenStep st sp seg l).1 := by
  fun_cases listenStep st sp seg l
  case case1 =>
    intro x hx
    simp only [List.mem_append, List.mem_singleton] at hx
    rcases hx with hx | hx
    · exact h x hx
    · subst hx; simp
  all_goals exact h

theorem segStep_hsInv (st : St) (sp dp : Nat) (seg : InSeg) (l : Nat) (h : HsInv st) : HsInv (segStep st sp dp seg l).1 := by
  fun_cases segStep st sp dp seg l
  case case4 ih _ => fun_cases activeSeg st ih.1 ih.2 sp seg l <;> exact h
  case case5 ph _ =>
    have hf : ∀ x ∈ st.hs.filter (·.1 != sp), x.2.state ≠ .completed := fun x hx => h x (List.mem_filter.mp hx).1
    fun_cases passiveSeg st ph.2 sp seg l
    · exact hf
    · exact hf
    · rename_i hc _
      intro x hx
      simp only [List.mem_append, List.mem_singleton] at hx
      rcases hx with hx | hx
      · exact hf x hx
      · subst hx; simpa using hc
  case case6 => exact listenStep_hsInv _ _ _ _ h
  all_goals exact h

theorem stackStep_hsInv (st : St) (op : Op) (h : HsInv st) : HsInv (stackStep st op).1 := by
  cases op with
  | seg sp dp s l => exact segStep_hsInv _ _ _ _ _ h
  | listen => exact h
  | cookieMode on => exact h
  | connect i iss => exact h
  | accept => simp only [stackStep, acceptStep]; cases st.acceptQ <;> exact h
  | write i d => simp only [stackStep, writeStep]; cases st.eps[i]? <;> exact h
  | read i => simp only [stackStep, readStep]; cases st.eps[i]? <;> exact h
  | timer i => simp only [stackStep, timerStep]; cases st.eps[i]? <;> exact h
  | shutdownWrite i =>
    simp only [stackStep, shutdownStep]
    cases st.eps[i]? with
    | none => exact h
    | some x => cases hc : x.2.state != .connected <;> simp only [hc, Bool.false_eq_true, ↓reduceIte] <;> exact h

theorem run_hsInv (c : Cfg) (ops : List Op) : HsInv (run c ops).1 :=
  TcpReachQ.run_induct (A := fun _ => True) c (fun _ hx => by simp at hx) (fun st op _ h => stackStep_hsInv st op h)
    ops (fun _ _ => trivial)

/-- the cookie test: the distance `k` of the acknowledgement from cookie+1 must keep the MSS index in the table -/
theorem cookie_accepts_iff (sp : Nat) (seg : InSeg) (p irs ck mi : Nat) :
    cookieMatches sp seg (p, irs, ck, mi) = true ↔
      (p = sp ∧ addS irs 1 = seg.seq ∧ (mi + sizeS (addS ck 1) seg.ack) % 4294967296 < 4) := by
  simp [cookieMatches, and_assoc]

theorem cookie_exact_passes (sp : Nat) (seg : InSeg) (irs ck mi : Nat) (hmi : mi < 4)
    (hs : seg.seq = addS irs 1) (ha : seg.ack = addS ck 1) :
    cookieMatches sp seg (sp, irs, ck, mi) = true := by
  rw [cookie_accepts_iff]
  refine ⟨rfl, hs.symm, ?_⟩
  rw [ha, TcpLemmas.sizeS_self]
  omega

/-- KNOWN FINDING (c03.cookie-ack-offset): the test is not exact -- an acknowledgement one beyond the cookie
passes when the SYN announced a small MSS (index 0), and the connection then uses the next larger MSS -/
theorem cookie_offset_witness :
    cookieMatches 40000 ⟨fAck, 1001, 5002, 1000, [], []⟩ (40000, 1000, 5000, 0) = true ∧
    (5002 : Nat) ≠ addS 5000 1 ∧
    (cookieEp {} (40000, 1000, 5000, 0) ⟨fAck, 1001, 5002, 1000, [], []⟩).snd.maxPayload = 1300 := by
  decide

theorem active_completes_only_on_exact_synack (h : Hs) (s : InSeg) (n : Nat)
    (hs : h.state = .synSent) (hc : (h.handle s n).1.state = .completed) :
    has s.flags fSyn = true ∧ has s.flags fAck = true ∧ s.ack = addS h.iss 1 ∧ has s.flags fRst = false :=
  have c := handle_completed h s n (by rw [hs]; exact HState.noConfusion) hc
  ⟨c.2.2.2 hs, c.2.1, c.2.2.1, c.1⟩

/-- any other acknowledgement draws exactly one reset carrying it as sequence number; the handshake makes no progress -/
theorem wrong_ack_is_reset (h : Hs) (s : InSeg) (n : Nat)
    (hs : h.state = .synRcvd ∨ h.state = .synSent) (hr : has s.flags fRst = false)
    (ha : has s.flags fAck = true) (hne : s.ack ≠ addS h.iss 1) :
    ∃ r, (h.handle s n).2 = [r] ∧ has r.flags fRst = true ∧ r.seq = s.ack ∧ r.data = [] ∧
      (h.handle s n).1.state = h.state ∧ (h.handle s n).1.iss = h.iss := by
  have hf : has (fRst ||| fAck) fRst = true := by decide
  unfold Hs.handle
  rcases hs with hs | hs <;> simp [hs, hr, ha, hne, hsRst, hf]

theorem hs_done_inert (h : Hs) (s : InSeg) (n : Nat) (hd : h.state = .completed ∨ h.state = .failed) :
    (h.handle s n).2 = [] := by
  unfold Hs.handle
  rcases hd with hd | hd <;> simp [hd]

/-- the last acknowledgement sent covers all that was received; between events this holds of every endpoint whose loop
still runs (`Quiet`), so a reset, which carries nothing new, draws no ACK -/
def AckSync (e : Ep) : Prop := e.rcv.rcvNxt = e.snd.maxSentAck
def Quiet (e : Ep) : Prop := e.done = true ∨ AckSync e

/-- what sending keeps: the `done` flag, and `AckSync` once it holds -/
def Keeps (e e' : Ep) : Prop := e'.done = e.done ∧ (AckSync e → AckSync e')

theorem Keeps.refl (e : Ep) : Keeps e e := ⟨rfl, id⟩

theorem sendData_keeps (e : Ep) : Keeps e (sendData e).1 := by
  obtain ⟨_, _, _, _, _, _, _, _, hm, h⟩ := sendData_sendOnly e
  rw [h]
  exact ⟨rfl, fun hs => hm.elim (fun hm => hs.trans hm.symm) Eq.symm⟩

theorem sendAck_sync (e : Ep) : AckSync (sendAck e).1 ∧ (sendAck e).1.done = e.done := by
  obtain ⟨_, h⟩ := sendSegment_eq e [] fAck e.snd.sndNxt
  unfold sendAck
  rw [h]
  exact ⟨rfl, rfl⟩

theorem closeIfDone_quiet (e : Ep) (h : Quiet e) : Quiet (closeIfDone e) := by
  unfold closeIfDone
  split
  · exact Or.inl rfl
  · exact h

theorem finishBatch_quiet (e : Ep) (out : List OutSeg) (r : Bool) : Quiet (finishBatch e out r).1 := by
  fun_cases finishBatch e out r
  · exact Or.inl rfl
  · exact closeIfDone_quiet _ (Or.inr (sendAck_sync e).1)
  · rename_i h
    exact closeIfDone_quiet _ (Or.inr (by simpa [AckSync] using h))

theorem keeps_quiet {e e' : Ep} (k : Keeps e e') (h : Quiet e) : Quiet e' := h.imp k.1.trans k.2

theorem quiet_of_frame {e e' : Ep} (h : Quiet e) (h1 : e'.done = e.done) (h2 : e'.rcv.rcvNxt = e.rcv.rcvNxt)
    (h3 : e'.snd.maxSentAck = e.snd.maxSentAck) : Quiet e' := h.imp h1.trans fun h => h2.trans (h.trans h3.symm)

/-- `Quiet` is kept by whatever sends or leaves `done`, `rcvNxt` and `maxSentAck` alone ... -/
theorem quiet_leaves : Leaves (fun e r => Quiet e → Quiet r.1) where
  toSteps := Steps.inv Quiet
  send := fun e => keeps_quiet (sendData_keeps e)
  ack := fun e _ => Or.inr (sendAck_sync e).1
  close := closeIfDone_quiet
  fin := fun _ _ _ h => quiet_of_frame h rfl rfl rfl
  shut := fun _ h => quiet_of_frame h rfl rfl rfl
  rto := fun e _ _ h => by
    obtain ⟨_, _, _, _, hr⟩ := rtoState_same e.snd
    exact keeps_quiet (sendData_keeps _) (quiet_of_frame h rfl rfl (by rw [hr]))

/-- ... and restored at the end of every wake-up: `rcvHandleSegment` moves `rcvNxt` without acknowledging, so there is
no `SegLeaves` bundle and the loop goes through `handleSegments_of_wake` with what `finishBatch` establishes -/
theorem quiet_inv : EpInv Quiet where
  fresh := by intros; exact Or.inr rfl
  dflt := Or.inr rfl
  failed := by intro err; exact Or.inl rfl
  segs := fun e l => (Steps.inv Quiet).handleSegments_of_wake (Q := fun _ => True)
    (fun _ _ _ _ => finishBatch_quiet _ _ _) e l (fun _ _ => trivial)
  write := quiet_leaves.appWrite fun _ _ _ _ _ _ h => quiet_of_frame h rfl rfl rfl
  read := quiet_leaves.appRead fun _ _ _ _ h => quiet_of_frame h rfl rfl rfl
  shut := quiet_leaves.appShutdownWrite
  timer := quiet_leaves.timerEvent

theorem handleSegments_short (e : Ep) (l : List InSeg) (hd : e.done = false) (hl : l.length ≤ maxSegmentsPerWake) :
    handleSegments e l = finishBatch (handleBatch e l).1 (handleBatch e l).2.1 (handleBatch e l).2.2 := by
  unfold handleSegments
  rw [handleSegmentsLoop]
  simp only [hd, Bool.false_eq_true, ↓reduceIte, hl]
  rw [List.take_of_length_le hl]

theorem handleCore_rst (e : Ep) (seg : InSeg) (hr : has seg.flags fRst = true) :
    handleCore e seg = (e, [], acceptable e.rcv seg.seq 0) := by
  unfold handleCore
  simp only [hr, ↓reduceIte]

theorem handleBatch_single (e : Ep) (seg : InSeg) :
    handleBatch e [seg] = ((handleCore e seg).1, (handleCore e seg).2.1, (handleCore e seg).2.2) := by
  simp only [handleBatch]
  split
  · rfl
  · rename_i h; simp; simpa using h

theorem ep_rst_not_answered (e : Ep) (seg : InSeg) (hq : Quiet e) (hr : has seg.flags fRst = true) :
    (handleSegment e seg).2 = [] := by
  unfold handleSegment
  cases hd : e.done with
  | true => unfold handleSegments; rw [handleSegmentsLoop]; simp [hd]
  | false =>
    have hs : AckSync e := hq.resolve_left (by simp [hd])
    rw [handleSegments_short e [seg] hd (by simp [maxSegmentsPerWake]), handleBatch_single, handleCore_rst e seg hr]
    fun_cases finishBatch e [] (acceptable e.rcv seg.seq 0)
    · rfl
    · rename_i h _; exact absurd hs (by simpa [AckSync] using h)
    · rfl

theorem rstOut_rst (seg : InSeg) (hr : has seg.flags fRst = true) : rstOut seg = [] := by
  simp [rstOut, replyWithReset, hr]

theorem hs_rst_not_answered (h : Hs) (s : InSeg) (n : Nat) (hr : has s.flags fRst = true) :
    (h.handle s n).2 = [] := by
  fun_cases Hs.handle h s n
  case case1 | case2 | case7 | case8 | case15 => rfl
  all_goals contradiction

theorem listenStep_rst (st : St) (sp : Nat) (seg : InSeg) (l : Nat) (hr : has seg.flags fRst = true) :
    (listenStep st sp seg l).2 = [] := by
  fun_cases listenStep st sp seg l
  case case1 h _ _ _ | case2 h _ _ _ | case3 h _ _ | case4 h _ => cases beq_iff_eq.mp h ▸ hr
  case case5 h => simp [hr] at h
  case case6 => rfl

/-- a segment with RST is never answered ... -/
theorem stack_rst_not_answered (st : St) (hst : StAll Quiet st) (sp dp : Nat) (seg : InSeg) (l : Nat)
    (hr : has seg.flags fRst = true) : (segStep st sp dp seg l).2 = [] := by
  fun_cases segStep st sp dp seg l
  case case1 | case8 => exact rstOut_rst seg hr
  case case3 x heq _ _ => exact ep_rst_not_answered _ _ (hst.1 _ (TcpReachQ.find_zipIdx_mem heq)) hr
  case case4 ih _ => fun_cases activeSeg st ih.1 ih.2 sp seg l <;> exact hs_rst_not_answered _ _ _ hr
  case case5 ph _ => fun_cases passiveSeg st ph.2 sp seg l <;> exact hs_rst_not_answered _ _ _ hr
  case case6 => exact listenStep_rst _ _ _ _ hr
  all_goals rfl

/-- ... in every state the stack can reach (the event is the arrival of a segment; no other event carries one) -/
theorem rst_never_answered (c : Cfg) (ops : List Op) (sp dp : Nat) (seg : InSeg) (l : Nat)
    (hr : has seg.flags fRst = true) : (stackStep (run c ops).1 (.seg sp dp seg l)).2 = [] :=
  stack_rst_not_answered _ (run_all quiet_inv c ops) sp dp seg l hr

end Props.C03
