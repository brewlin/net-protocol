import NetProto.Props.C19
/-! # C19, the detach protocol: `Done` and `AddWaker`

*After Done returns, no waker can touch the sleeper again and each waker can be attached to a new sleeper.*

Model: the `Done` layer of `Model/Sleep.lean` (`DSt`, `dstep`): the two loops of `Sleeper.Done`, the second running the
same `nextWaker` code as `Fetch` (the base machine), and `AddWaker` on a waker a `Done` has detached, interleaved step by
step with any number of asserting / clearing goroutines.  Proof device: a detached waker (ghost list `gone`) counts as
permanently in flight on a goroutine that never moves (`ghost`), so the invariant of `Props/C19.lean` carries over
unchanged and its step lemmas are reused. -/
namespace Props.C19
open Model.Sleep

/-- a state with extra goroutines appended that never move -/
def withExtra (s : St) (x : List APC) : St := { s with ts := s.ts ++ x }

theorem popLocal_extra (s : St) (x : List APC) : (withExtra s x).popLocal = withExtra s.popLocal x := by
  unfold St.popLocal withExtra
  cases s.local_ <;> rfl

theorem startFetch_extra (s : St) (x : List APC) (b : Bool) : (withExtra s x).startFetch b = withExtra (s.startFetch b) x := by
  unfold St.startFetch
  show (if s.f = .idle then (withExtra { s with block := b } x).popLocal else _) = _
  split
  · exact popLocal_extra _ x
  · rfl

theorem fstep_extra (s : St) (x : List APC) : (withExtra s x).fstep = (withExtra s.fstep.1 x, s.fstep.2) := by
  obtain ⟨ws, sh, lo, wg, f, bl, ts⟩ := s
  unfold St.fstep withExtra
  -- the fetcher reads and writes every field but `ts`
  cases f with
  | n7 => exact congrArg (·, Ev.none) (popLocal_extra ⟨_, _, _, _, _, _, _⟩ x)
  | f1 k =>
    simp only
    split
    · rfl
    · exact congrArg (·, Ev.none) (popLocal_extra ⟨_, _, _, _, _, _, _⟩ x)
  | _ =>
    simp only
    repeat' split
    all_goals rfl

theorem astep_extra (s : St) (x : List APC) (t : Nat) (h : t < s.ts.length) :
    (withExtra s x).astep t = (withExtra (s.astep t).1 x, (s.astep t).2) := by
  obtain ⟨ws, sh, lo, wg, f, bl, ts⟩ := s
  unfold St.astep withExtra
  dsimp only
  rw [List.getElem?_append_left h]
  cases ts[t]? with
  | none => rfl
  | some pc => cases pc <;> simp only <;> (repeat' split) <;> simp only [List.set_append_left _ _ h]

theorem startCall_extra (s : St) (x : List APC) (t : Nat) (c : Call) (h : t < s.ts.length) :
    (withExtra s x).startCall t c = withExtra (s.startCall t c) x := by
  obtain ⟨ws, sh, lo, wg, f, bl, ts⟩ := s
  unfold St.startCall withExtra
  dsimp only
  rw [List.getElem?_append_left h]
  cases ts[t]? with
  | none => cases c <;> rfl
  | some pc => cases pc <;> cases c <;> simp only [List.set_append_left _ _ h]

theorem astep_none (b : St) (t : Nat) (h : ¬ t < b.ts.length) : b.astep t = (b, .none) := by
  unfold St.astep
  rw [List.getElem?_eq_none (by omega)]

theorem startCall_none (b : St) (t : Nat) (c : Call) (h : ¬ t < b.ts.length) : b.startCall t c = b := by
  unfold St.startCall
  rw [List.getElem?_eq_none (by omega)]

theorem act_extra_inv (b : St) (x : List APC) (a : Act) (h : SInv (withExtra b x)) : SInv (withExtra (b.act a).1 x) := by
  have key : ((withExtra b x).act a).1 = withExtra (b.act a).1 x ∨ (b.act a).1 = b := by
    -- second alternative: thread `t` is none of the base machine's (under the ghost view it would be a ghost)
    cases a with
    | fetch bl => exact Or.inl (startFetch_extra b x bl)
    | fstep => exact Or.inl (congrArg Prod.fst (fstep_extra b x))
    | call t c =>
      by_cases ht : t < b.ts.length
      · exact Or.inl (startCall_extra b x t c ht)
      · exact Or.inr (startCall_none b t c ht)
    | astep t =>
      by_cases ht : t < b.ts.length
      · exact Or.inl (congrArg Prod.fst (astep_extra b x t ht))
      · exact Or.inr (congrArg Prod.fst (astep_none b t ht))
  rcases key with e | e
  · exact e ▸ act_inv _ a h
  · exact e.symm ▸ h

/-- the base machine with one never-moving goroutine per detached waker, holding it "in flight" -/
def ghost (s : DSt) : St := withExtra s.base (s.gone.map APC.e1)

theorem sumOver_ghosts (k : Nat) (l : List Nat) : sumOver (inflight k) (l.map APC.e1) = l.count k := by
  induction l with
  | nil => rfl
  | cons a t ih =>
    rw [List.map_cons, sumOver_cons, ih, List.count_cons]
    simp only [inflight, beq_iff_eq]
    omega

theorem loc_ghost (b : St) (g : List Nat) (j : Nat) : loc (withExtra b (g.map APC.e1)) j = loc b j + g.count j := by
  unfold loc withExtra
  simp only
  rw [sumOver_append, sumOver_ghosts]
  omega

theorem J_ghost_step {b b' : St} {g g' : List Nat} (hj : J (withExtra b (g.map APC.e1)))
    (h : ∀ k, loc b' k + g'.count k + want (b.ws k) = loc b k + g.count k + want (b'.ws k)) :
    J (withExtra b' (g'.map APC.e1)) :=
  hj.step fun k => by rw [loc_ghost, loc_ghost]; exact h k

/-- `Done` and `AddWaker` run on the fetcher's own goroutine: nobody sleeps, so `K` asks nothing -/
theorem K_of_idle {b : St} (hf : b.f = .idle) : K b := K_of_awake (by rw [hf]; simp)

theorem hand_to_ghost (b : St) (g : List Nat) (k : Nat) (h : SInv (withExtra b (g.map APC.e1))) (hf : b.f = .f1 k) :
    SInv (withExtra { b with f := .idle } ((g ++ [k]).map APC.e1)) := by
  refine ⟨J_ghost_step h.1 fun j => ?_, Or.inl (Or.inl rfl), ?_, K_of_idle rfl⟩
  · unfold loc
    by_cases hjk : k = j <;> simp [hf, hjk] <;> omega
  · have := (Mi_iff _).mp h.2.2.1
    rw [show (withExtra b (g.map APC.e1)).f = .f1 k from hf] at this
    exact (Mi_iff _).mpr this

theorem detach_idle (b : St) (g : List Nat) (k : Nat) (h : SInv (withExtra b (g.map APC.e1))) (hw : b.ws k = .slp)
    (hf : b.f = .idle) : SInv (withExtra { b with ws := setWs b.ws k .nil } ((g ++ [k]).map APC.e1)) := by
  refine ⟨J_ghost_step h.1 fun j => ?_, h.2.1, h.2.2.1, K_of_idle hf⟩
  show loc b j + _ + _ = _
  by_cases hjk : k = j
  · subst hjk; simp [want, setWs, hw]; omega
  · simp [want, setWs, hjk, Ne.symm hjk]

/-- the attached wakers Done's first loop has still to visit -/
def todo : DPC → List Nat
  | .d1 k r => k :: r
  | .d2 k r => k :: r
  | _ => []

def inDone : DPC → Bool
  | .d1 _ _ => true
  | .d2 _ _ => true
  | .pull => true
  | _ => false

/-- the waker `AddWaker` is working on while it has not yet attached or pushed it -/
def adding : DPC → Option Nat
  | .w1 k => some k
  | .w2 k _ => some k
  | .we1 k => some k
  | .we2 k _ => some k
  | _ => none

/-- the waker `AddWaker` has pushed and is running the wake loop for -/
def added : DPC → Option Nat
  | .we3 k => some k
  | .we4 k _ => some k
  | _ => none

/-- invariant of the `Done` layer: the base invariant on the ghost view; every attached waker is detached, pending or
still to be visited; no `Fetch` is in progress while the first loop or `AddWaker` runs (on the fetcher's own goroutine) -/
structure DInv (s : DSt) : Prop where
  inv : SInv (ghost s)
  cover : inDone s.d = true → ∀ k ∈ s.att, k ∈ s.gone ∨ k ∈ s.pend ∨ k ∈ todo s.d
  phase1 : s.d ≠ .pull → s.base.f = .idle ∨ s.d = .off
  offPend : inDone s.d = false → s.pend = []
  addK : ∀ k, adding s.d = some k → k ∈ s.gone
  addedK : ∀ k, added s.d = some k → k ∉ s.gone

theorem DInv.fetcher_idle {s : DSt} (h : DInv s) (h1 : s.d ≠ .pull) (h2 : s.d ≠ .off) : s.base.f = .idle :=
  (h.phase1 h1).resolve_right h2

/-- what a step from `s` to `r.1` grants when its event `r.2` is a return of `Done` or `AddWaker` -/
def Returned (s : DSt) (r : DSt × Ev) : Prop :=
  match r.2 with
  | .doneReturned => r.1.d = .off ∧ ∀ k ∈ s.att, k ∈ r.1.gone
  | .addReturned => ∃ k, (adding s.d = some k ∨ added s.d = some k) ∧ k ∉ r.1.gone
  | _ => True

theorem returned_of_ne {s : DSt} {r : DSt × Ev} (h : r.2 ≠ .doneReturned ∧ r.2 ≠ .addReturned) : Returned s r := by
  unfold Returned
  split
  · exact absurd ‹_› h.1
  · exact absurd ‹_› h.2
  · trivial

abbrev StepInv (s : DSt) (r : DSt × Ev) : Prop := DInv r.1 ∧ Returned s r

theorem DInv.outside {s : DSt} (hi : SInv (ghost s)) (hnd : inDone s.d = false) (hf : s.base.f = .idle ∨ s.d = .off)
    (hp : s.pend = []) (ha : ∀ k, adding s.d = some k → k ∈ s.gone) (hb : ∀ k, added s.d = some k → k ∉ s.gone) : DInv s :=
  ⟨hi, (fun hh => by rw [hnd] at hh; cases hh), fun _ => hf, fun _ => hp, ha, hb⟩

theorem dinv_init (n nw : Nat) : DInv (DSt.init n nw) :=
  DInv.outside (by show SInv (withExtra (St.init n) []); unfold withExtra; simp only [List.append_nil]; exact inv_init n)
    rfl (Or.inr rfl) rfl nofun nofun

theorem DInv.inside {s : DSt} (hi : SInv (ghost s)) (hd : inDone s.d = true)
    (hc : ∀ k ∈ s.att, k ∈ s.gone ∨ k ∈ s.pend ∨ k ∈ todo s.d) (hf : s.d ≠ .pull → s.base.f = .idle) : DInv s := by
  refine ⟨hi, fun _ => hc, fun hh => Or.inl (hf hh), (fun hh => by rw [hd] at hh; cases hh), fun k hh => ?_, fun k hh => ?_⟩ <;>
    cases hs : s.d <;> rw [hs] at hd hh <;> cases hd <;> cases hh

theorem DInv.base {s : DSt} (h : DInv s) (b' : St) (hi : SInv (withExtra b' (s.gone.map APC.e1)))
    (hf : s.d ≠ .pull → s.base.f = .idle → b'.f = .idle ∨ s.d = .off) : DInv ({ s with base := b' } : DSt) :=
  { h with inv := hi, phase1 := fun hh => (h.phase1 hh).elim (hf hh) Or.inr }

/-- `nextPull` resets the fetcher's pc itself, so the invariant is asked of the state with the pc reset -/
theorem nextPull_inv (s : DSt) (h : SInv (withExtra { s.base with f := .idle } (s.gone.map APC.e1)))
    (hp : ∀ k ∈ s.att, k ∈ s.gone ∨ k ∈ s.pend) : StepInv s s.nextPull := by
  unfold DSt.nextPull
  split
  · rename_i he
    exact ⟨DInv.outside h rfl (Or.inr rfl) he nofun nofun, rfl,
      fun k hk => (hp k hk).resolve_right (by rw [he]; exact List.not_mem_nil)⟩
  · refine ⟨DInv.inside ?_ rfl (fun k hk => (hp k hk).imp_right Or.inl) (fun hh => absurd rfl hh), trivial⟩
    show SInv (withExtra (({ s.base with f := .idle } : St).startFetch true) (s.gone.map APC.e1))
    rw [← startFetch_extra]
    exact startFetch_inv _ true h

theorem advance_inv (s : DSt) (rest : List Nat) (h : SInv (ghost s)) (hf : s.base.f = .idle)
    (hc : ∀ k ∈ s.att, k ∈ s.gone ∨ k ∈ s.pend ∨ k ∈ rest) : StepInv s (s.advance rest) := by
  unfold DSt.advance
  cases rest with
  | nil =>
    refine nextPull_inv s ?_ (fun k hk => (hc k hk).imp_right (·.resolve_right List.not_mem_nil))
    rw [← hf]; exact h
  | cons k r => exact ⟨DInv.inside h rfl hc (fun _ => hf), trivial⟩

theorem startDone_inv (s : DSt) (h : DInv s) : StepInv s s.startDone := by
  unfold DSt.startDone
  split
  · rename_i hc
    exact advance_inv s s.att h.inv hc.2 (fun k hk => Or.inr (Or.inr hk))
  · exact ⟨h, trivial⟩

theorem DInv.located {s : DSt} (h : DInv s) (k : Nat) : loc s.base k + s.gone.count k = want (s.base.ws k) := by
  rw [← loc_ghost]; exact (J_iff _).mp h.inv.1 k

theorem gone_counts {s : DSt} (h : DInv s) {k : Nat} (hk : k ∈ s.gone) :
    s.base.ws k ≠ .slp ∧ s.gone.count k = 1 ∧ loc s.base k = 0 := by
  have hc : 1 ≤ s.gone.count k := List.count_pos_iff.mpr hk
  have := h.located k
  unfold want at this
  split at this
  · omega
  · exact ⟨‹_›, by omega, by omega⟩

theorem attached_located {s : DSt} (h : DInv s) {k : Nat} (hk : k ∉ s.gone) :
    (s.base.ws k = .slp → loc s.base k = 0) ∧ (s.base.ws k ≠ .slp → loc s.base k = 1) := by
  have := h.located k
  rw [List.count_eq_zero.mpr hk] at this
  exact (want_iff _ _).mp this

theorem not_mem_erase_of_count {l : List Nat} {k : Nat} (h : l.count k = 1) : k ∉ l.erase k := fun hm => by
  have := List.count_pos_iff.mpr hm
  rw [List.count_erase_self] at this
  omega

theorem J_unghost {s : DSt} (h : DInv s) {k : Nat} (hk : k ∈ s.gone) (b' : St)
    (hb : ∀ j, loc b' j + want (s.base.ws j) = loc s.base j + (if j = k then 1 else 0) + want (b'.ws j)) :
    J (withExtra b' ((s.gone.erase k).map APC.e1)) :=
  J_ghost_step h.inv.1 fun j => by
    have := hb j
    by_cases hjk : j = k
    · subst hjk; rw [List.count_erase_self, (gone_counts h hk).2.1]; rw [if_pos rfl] at this; omega
    · rw [List.count_erase_of_ne hjk]; rw [if_neg hjk] at this; omega

theorem w2_inv (s : DSt) (h : DInv s) (k : Nat) (hk : k ∈ s.gone) (hf : s.base.f = .idle) (hnd : inDone s.d = false) :
    DInv ({ s with base := { s.base with ws := setWs s.base.ws k .slp }, gone := s.gone.erase k, d := .off } : DSt) := by
  refine DInv.outside ⟨?_, h.inv.2.1, h.inv.2.2.1, K_of_idle hf⟩ rfl (Or.inr rfl) (h.offPend hnd) nofun nofun
  refine J_unghost h hk { s.base with ws := setWs s.base.ws k .slp } fun j => ?_
  show loc s.base j + _ = _
  by_cases hjk : j = k
  · subst hjk; simp [want, setWs, (gone_counts h hk).1]
  · simp [want, setWs, hjk]

theorem we2_inv (s : DSt) (h : DInv s) (k : Nat) (hk : k ∈ s.gone) (hf : s.base.f = .idle) (hnd : inDone s.d = false) :
    DInv ({ s with base := { s.base with shared := k :: s.base.shared }, gone := s.gone.erase k, d := .we3 k } : DSt) := by
  refine DInv.outside ⟨?_, h.inv.2.1, h.inv.2.2.1, K_of_idle hf⟩ rfl (Or.inl hf) (h.offPend hnd) nofun
    (fun j e => Option.some.inj e ▸ not_mem_erase_of_count (gone_counts h hk).2.1)
  refine J_unghost h hk { s.base with shared := k :: s.base.shared } fun j => ?_
  unfold loc
  by_cases hjk : j = k
  · subst hjk; simp; omega
  · simp [hjk, Ne.symm hjk]

theorem dstep_inv (s : DSt) (h : DInv s) : StepInv s s.dstep := by
  obtain ⟨b, d, att, pend, gone⟩ := s
  unfold DSt.dstep
  -- a step of `AddWaker` that only moves its pc, and keeps the waker it works on
  have pc : ∀ d' : DPC, d ≠ .off → inDone d = false → inDone d' = false → (∀ k, adding d' = some k → adding d = some k) →
      (∀ k, added d' = some k → added d = some k) → DInv ⟨b, d', att, pend, gone⟩ := fun d' h0 hnd hd' ha hb =>
    DInv.outside h.inv hd' (Or.inl (h.fetcher_idle (fun e : d = .pull => by rw [e] at hnd; cases hnd) h0)) (h.offPend hnd) (fun k e => h.addK k (ha k e))
      (fun k e => h.addedK k (hb k e))
  cases d with
  | off => exact ⟨h, trivial⟩
  | d1 k rest =>
    have hf := h.fetcher_idle nofun nofun
    have hc := h.cover rfl
    simp only
    split
    · refine advance_inv ⟨b, .d1 k rest, att, k :: pend, gone⟩ rest h.inv hf fun j hj => ?_
      simpa [todo, or_assoc, or_left_comm] using hc j hj
    · exact ⟨DInv.inside h.inv rfl hc (fun _ => hf), trivial⟩
  | d2 k rest =>
    have hf := h.fetcher_idle nofun nofun
    have hc := h.cover rfl
    simp only
    split
    · rename_i hw
      refine advance_inv ⟨{ b with ws := setWs b.ws k .nil }, .d2 k rest, att, pend, gone ++ [k]⟩ rest
        (detach_idle b _ k h.inv hw hf) hf fun j hj => ?_
      simpa [todo, or_assoc, or_left_comm] using hc j hj
    · exact ⟨DInv.inside h.inv rfl hc (fun _ => hf), trivial⟩
  | pull =>
    have hc := h.cover rfl
    simp only
    split
    · -- `nextWaker` has returned waker `k`: from the fetcher's hands to a ghost
      rename_i k hfb
      refine nextPull_inv ⟨b, .pull, att, pend.erase k, gone ++ [k]⟩ (hand_to_ghost b _ k h.inv hfb) fun j hj => ?_
      by_cases hjk : j = k
      · simp [hjk]
      · simpa [todo, hjk, List.mem_erase_of_ne] using hc j hj
    · exact ⟨h.base _ (act_extra_inv b _ .fstep h.inv) (fun hh => absurd rfl hh), trivial⟩
  | w1 k => simp only; split <;> exact ⟨pc _ nofun rfl rfl (fun _ => id) nofun, trivial⟩
  | we1 k => exact ⟨pc _ nofun rfl rfl (fun _ => id) nofun, trivial⟩
  | w2 k p =>
    have hf := h.fetcher_idle nofun nofun
    have hk := h.addK k rfl
    simp only
    split
    · -- its one entry in `gone` goes
      exact ⟨w2_inv _ h k hk hf rfl, k, Or.inl rfl, not_mem_erase_of_count (gone_counts h hk).2.1⟩
    · exact ⟨pc _ nofun rfl rfl (fun _ => id) nofun, trivial⟩
  | we2 k snap =>
    have hf := h.fetcher_idle nofun nofun
    have hk := h.addK k rfl
    simp only
    split
    · exact ⟨we2_inv _ h k hk hf rfl, trivial⟩
    · exact ⟨pc _ nofun rfl rfl (fun _ => id) nofun, trivial⟩
  | we3 k =>
    simp only
    split
    · exact ⟨pc _ nofun rfl rfl nofun nofun, k, Or.inr rfl, h.addedK k rfl⟩
    · exact ⟨pc _ nofun rfl rfl nofun (fun _ => id), trivial⟩
  | we4 k g =>
    have hf := h.fetcher_idle nofun nofun
    simp only
    split
    · exact ⟨(pc (.we3 k) nofun rfl rfl nofun (fun _ => id)).base _
        ⟨h.inv.1, h.inv.2.1, (Mi_iff _).mpr (by rw [hf]; rfl), K_of_idle hf⟩ (fun _ => Or.inl), trivial⟩
    · exact ⟨pc _ nofun rfl rfl nofun (fun _ => id), trivial⟩

theorem startAdd_inv (s : DSt) (k : Nat) (h : DInv s) : DInv (s.startAdd k).1 := by
  unfold DSt.startAdd
  split
  · rename_i hc
    exact DInv.outside h.inv rfl (Or.inl hc.2.1) (h.offPend (by rw [hc.1]; rfl)) (fun j hj => Option.some.inj hj ▸ hc.2.2) nofun
  · exact h

theorem astep_keeps_idle (b : St) (t : Nat) (hm : Mi b) (hf : b.f = .idle) : (b.astep t).1.f = .idle :=
  (astep_f b t).elim (·.trans hf) fun hw => FPC.noConfusion (hf.symm.trans (hm.1.mp hw))

theorem startCall_f (b : St) (t : Nat) (c : Call) : (b.startCall t c).f = b.f := by
  unfold St.startCall
  cases b.ts[t]? with
  | none => cases c <;> rfl
  | some pc => cases pc <;> cases c <;> rfl

theorem fstep_ev_ne_ret (b : St) : b.fstep.2 ≠ .doneReturned ∧ b.fstep.2 ≠ .addReturned := by
  rcases fstep_ev b with h | ⟨k, _, _, h⟩ | ⟨_, _, h⟩ <;> rw [h] <;> exact ⟨Ev.noConfusion, Ev.noConfusion⟩

theorem astep_ev_ne_ret (b : St) (t : Nat) : (b.astep t).2 ≠ .doneReturned ∧ (b.astep t).2 ≠ .addReturned := by
  unfold St.astep
  cases b.ts[t]? with
  | none => exact ⟨Ev.noConfusion, Ev.noConfusion⟩
  | some pc => cases pc <;> simp only <;> (try split) <;> exact ⟨Ev.noConfusion, Ev.noConfusion⟩

theorem dact_inv (s : DSt) (a : DAct) (h : DInv s) : StepInv s (s.act a) := by
  cases a with
  | done => exact startDone_inv s h
  | add k => exact ⟨startAdd_inv s k h, by show Returned s (s.startAdd k); unfold DSt.startAdd; split <;> trivial⟩
  | dstep => exact dstep_inv s h
  | base a =>
    have hb := act_extra_inv s.base _ a h.inv
    cases a with
    | fetch b =>
      simp only [DSt.act]
      split
      · rename_i hd; exact ⟨h.base _ hb (fun _ _ => Or.inr hd), trivial⟩
      · exact ⟨h, trivial⟩
    | fstep =>
      simp only [DSt.act]
      split
      · rename_i hd; exact ⟨h.base _ hb (fun _ _ => Or.inr hd), returned_of_ne (fstep_ev_ne_ret _)⟩
      · exact ⟨h, trivial⟩
    | call t c => exact ⟨h.base _ hb (fun _ hf => Or.inl ((startCall_f _ t c).trans hf)), trivial⟩
    | astep t => exact ⟨h.base _ hb (fun _ hf => Or.inl (astep_keeps_idle s.base t h.inv.2.2.1 hf)), returned_of_ne (astep_ev_ne_ret _ t)⟩

theorem dreachable_inv (n nw : Nat) (acts : List DAct) : DInv (drun n nw acts) := by
  unfold drun
  exact List.foldlRecOn acts _ (dinv_init n nw) fun s h a _ => (dact_inv s a h).1

/-- **C19 (Done)**: in every state of the invariant (with `dreachable_inv`: every reachable one) a waker Done has
detached is in no list of the sleeper, not being pushed, not in the fetcher's hands, and its pointer does not name the
sleeper: no later `Assert` enqueues it, `AddWaker` finds it free -/
theorem gone_is_nowhere (s : DSt) (h : DInv s) (k : Nat) (hk : k ∈ s.gone) :
    s.base.ws k ≠ .slp ∧ k ∉ s.base.shared ∧ k ∉ s.base.local_ ∧ (∀ p ∈ s.base.ts, inflight k p = 0) ∧ s.base.f ≠ .f1 k := by
  obtain ⟨hne, _, h0⟩ := gone_counts h hk
  unfold loc at h0
  refine ⟨hne, ?_, ?_, (sumOver_eq_zero _ _).mp (by omega), ?_⟩
  · intro hm; have := List.count_pos_iff.mpr hm; omega
  · intro hm; have := List.count_pos_iff.mpr hm; omega
  · intro hf; rw [if_pos hf] at h0; omega

theorem finish_ev (s : DSt) : s.finish.1.gone = s.gone ∧ s.finish.1.d = .off := ⟨rfl, rfl⟩

theorem doneReturned_spec (s : DSt) (a : DAct) (h : DInv s) (hev : (s.act a).2 = .doneReturned) :
    (s.act a).1.d = .off ∧ ∀ k ∈ s.att, k ∈ (s.act a).1.gone := by
  have := (dact_inv s a h).2
  unfold Returned at this
  rwa [hev] at this

/-- **C19 (Done returns only when every attached waker is detached)** -/
theorem done_returns_all_detached (s : DSt) (a : DAct) (h : DInv s) (hev : (s.act a).2 = .doneReturned) :
    ∀ k ∈ s.att, k ∈ (s.act a).1.gone :=
  (doneReturned_spec s a h hev).2

/-- a goroutine asserts waker 0 until it has pushed it and is about to read `waitingG`; then Done runs to its end -/
def stragglerRun : List DAct :=
  [.base (.call 0 (.assert 0)), .base (.astep 0), .base (.astep 0), .base (.astep 0), .base (.astep 0),
   .done, .dstep, .dstep, .dstep, .dstep]

/-- **the worded clause "after Done returns no waker can touch the sleeper again" fails in one corner** (known
finding): Done waits until every pending waker has reached the lists, not until its pusher has left the wake loop.  Here
Done has returned, waker 0 is detached, and the asserting goroutine's next step reads the sleeper's `waitingG`.  What it
cannot do is queue the waker again or hand it to a `Fetch`: `gone_is_nowhere`. -/
theorem done_straggler_witness :
    (drun 1 1 stragglerRun).d = .off ∧ (drun 1 1 stragglerRun).gone = [0] ∧ (drun 1 1 stragglerRun).att = [] ∧
    (drun 1 1 stragglerRun).base.ts = [.e3 0] ∧
    ((drun 1 1 stragglerRun).act (.base (.astep 0))).2 = .assertDone := by
  decide

/-- non-vacuity of `done_returns_all_detached`: Done returns on the last step of that run -/
example :
    ((drun 1 1 (stragglerRun.take 9)).act .dstep).2 = .doneReturned ∧ (drun 1 1 (stragglerRun.take 9)).att = [0] ∧
    ((drun 1 1 (stragglerRun.take 9)).act .dstep).1.gone = [0] := by
  decide

theorem finish_gone (s : DSt) : s.finish.1.gone = s.gone := rfl

/-- also for `nextPull`, which is `advance []` -/
theorem advance_keeps (s : DSt) (rest : List Nat) {k : Nat} (hk : k ∈ s.gone) :
    k ∈ (s.advance rest).1.gone ∧ adding (s.advance rest).1.d ≠ some k := by
  unfold DSt.advance DSt.nextPull
  cases rest with
  | nil => dsimp only; split <;> exact ⟨hk, nofun⟩
  | cons j r => exact ⟨hk, nofun⟩

/-- a detached waker that `AddWaker` is not working on stays so under every action but `add k`: only `AddWaker`'s own
steps take a waker out of `gone`, and only the one it works on -/
theorem act_gone_keep (s : DSt) (a : DAct) (k : Nat) (hk : k ∈ s.gone) (hna : adding s.d ≠ some k) (ha : ∀ j, a = .add j → j ≠ k) :
    k ∈ (s.act a).1.gone ∧ adding (s.act a).1.d ≠ some k := by
  obtain ⟨b, d, att, pend, gone⟩ := s
  cases a with
  | base a => cases a <;> simp only [DSt.act] <;> (try split) <;> exact ⟨hk, hna⟩
  | add j =>
    simp only [DSt.act, DSt.startAdd]
    split
    · exact ⟨hk, fun hh => ha j rfl (Option.some.inj hh)⟩
    · exact ⟨hk, hna⟩
  | done =>
    simp only [DSt.act, DSt.startDone]
    split
    · exact advance_keeps _ _ hk
    · exact ⟨hk, hna⟩
  | dstep =>
    cases d with
    | off | we1 j => exact ⟨hk, hna⟩
    | w1 j => dsimp only [DSt.act, DSt.dstep]; split <;> exact ⟨hk, hna⟩
    | d1 j rest =>
      dsimp only [DSt.act, DSt.dstep]
      split
      · exact advance_keeps _ _ hk
      · exact ⟨hk, nofun⟩
    | d2 j rest =>
      dsimp only [DSt.act, DSt.dstep]
      split
      · exact advance_keeps _ _ (List.mem_append_left _ hk)
      · exact ⟨hk, nofun⟩
    | pull =>
      dsimp only [DSt.act, DSt.dstep]
      split
      · exact advance_keeps _ [] (List.mem_append_left _ hk)
      · exact ⟨hk, nofun⟩
    | w2 j p | we2 j snap =>
      dsimp only [DSt.act, DSt.dstep]
      split
      · exact ⟨(List.mem_erase_of_ne fun (hh : k = j) => hna (hh ▸ rfl)).mpr hk, nofun⟩
      · exact ⟨hk, hna⟩
    | we3 j | we4 j g => dsimp only [DSt.act, DSt.dstep]; split <;> exact ⟨hk, nofun⟩

theorem DInv.detached_stays {s : DSt} (h : DInv s) (acts : List DAct) {k : Nat} (hk : k ∈ s.gone) (hna : adding s.d ≠ some k)
    (ha : ∀ a ∈ acts, ∀ j, a = .add j → j ≠ k) :
    DInv (acts.foldl (fun s a => (s.act a).1) s) ∧ k ∈ (acts.foldl (fun s a => (s.act a).1) s).gone :=
  (List.foldlRecOn (motive := fun s => DInv s ∧ k ∈ s.gone ∧ adding s.d ≠ some k) acts _ ⟨h, hk, hna⟩
    fun s h a hm => ⟨(dact_inv s a h.1).1, act_gone_keep s a k h.2.1 h.2.2 (ha a hm)⟩).imp_right (·.1)

/-- **C19 (after Done returns)**: let `Done` return at some action of any history and continue with any actions of any
goroutine, none a call of `AddWaker` for `k`: a waker `k` attached when that `Done` returned is in every later state
where `gone_is_nowhere` says -/
theorem after_done_no_waker_is_queued (n nw : Nat) (before : List DAct) (a : DAct) (after : List DAct)
    (hev : ((drun n nw before).act a).2 = .doneReturned) (k : Nat) (hk : k ∈ (drun n nw before).att)
    (hna : ∀ b ∈ after, ∀ j, b = .add j → j ≠ k) :
    let s := drun n nw (before ++ a :: after)
    s.base.ws k ≠ .slp ∧ k ∉ s.base.shared ∧ k ∉ s.base.local_ ∧ (∀ p ∈ s.base.ts, inflight k p = 0) ∧ s.base.f ≠ .f1 k := by
  intro s
  have hb := dreachable_inv n nw before
  obtain ⟨hoff, h1⟩ := doneReturned_spec _ a hb hev
  have e : s = after.foldl (fun s a => (s.act a).1) ((drun n nw before).act a).1 := by
    show drun n nw (before ++ a :: after) = _
    unfold drun
    rw [List.foldl_append, List.foldl_cons]
  obtain ⟨hi, h2⟩ := (dact_inv _ a hb).1.detached_stays after (h1 k hk) (by rw [hoff]; nofun) hna
  rw [e]
  exact gone_is_nowhere _ hi k h2

/-- **C19 (a waker can be attached again)**: when `AddWaker` on a detached waker returns, the waker is no longer
detached and the location invariant `J` holds for it without any ghost: what is proved about Fetch / Assert / Clear
applies to it again -/
theorem addWaker_reattaches (s : DSt) (h : DInv s) (hev : s.dstep.2 = .addReturned) :
    ∃ k, (adding s.d = some k ∨ added s.d = some k) ∧ k ∉ s.dstep.1.gone ∧
      (s.dstep.1.base.ws k = .slp → loc s.dstep.1.base k = 0) ∧ (s.dstep.1.base.ws k ≠ .slp → loc s.dstep.1.base k = 1) := by
  obtain ⟨hinv, hret⟩ := dstep_inv s h
  unfold Returned at hret
  rw [hev] at hret
  obtain ⟨k, hk, hng⟩ := hret
  exact ⟨k, hk, hng, attached_located hinv hng⟩

/-- non-vacuity of `addWaker_reattaches`: an idle waker attached again by the compare-and-swap; the straggler run's
asserted waker pushed -/
example :
    let s := drun 0 1 [.done, .dstep, .dstep, .add 0, .dstep]
    s.dstep.2 = .addReturned ∧ s.gone = [0] ∧ s.dstep.1.gone = [] ∧ s.dstep.1.base.ws 0 = .slp := by
  decide

example :
    let s := drun 1 1 (stragglerRun ++ [.base (.astep 0), .add 0, .dstep, .dstep, .dstep])
    s.dstep.2 = .addReturned ∧ s.dstep.1.gone = [] ∧ s.dstep.1.base.shared = [0] ∧ s.dstep.1.base.ws 0 = .asserted := by
  decide

def expect_sleep_Done : List String :=
  ["assign[v2]", "for", "cond[(!=) v2 nil]", "assign[v3]", "for", "call[atomic LoadPointer(& v2 s)]", "assign[v4]",
   "if[(!=) v4 usleeper v0]", "call[usleeper(v0)]", "then", "assign[v2 allWakersNext]", "assign[v1]", "break",
   "fi", "if[atomic CompareAndSwapPointer & v2 s v4 nil]", "call[atomic CompareAndSwapPointer(& v2 s,v4,nil)]",
   "then", "break", "fi", "rof", "assign[v2]", "rof", "for", "cond[(!=) v1 nil]", "call[v0 nextWaker(true)]",
   "assign[v5]", "assign[v6]", "for", "assign[v2]", "cond[(!=) v2 nil]", "if[(==) v5 v2]", "then", "assign[v6]",
   "break", "fi", "assign[v6]", "assign[v2]", "rof", "rof", "assign[v0 allWakers]"]
def expect_sleep_AddWaker : List String :=
  ["assign[v1 allWakersNext]", "assign[v0 allWakers]", "assign[v1 id]", "for", "call[atomic LoadPointer(& v1 s)]",
   "call[Sleeper(atomic LoadPointer & v1 s)]", "assign[v3]", "if[(==) v3 & assertedSleeper]", "then",
   "call[v0 enqueueAssertedWaker(v1)]", "ret[]", "fi",
   "if[atomic CompareAndSwapPointer & v1 s usleeper v3 usleeper v0]", "call[usleeper(v3)]", "call[usleeper(v0)]",
   "call[atomic CompareAndSwapPointer(& v1 s,usleeper v3,usleeper v0)]", "then", "ret[]", "fi", "rof"]

/-- the skeleton of `Sleeper.Done` and `Sleeper.AddWaker` in the current source is the one the model's `Done` layer
mirrors (regenerated on every run; the schedule-point hooks are not part of it) -/
theorem done_skeleton_pinned :
    Gen.Shapes.sleep_Done = expect_sleep_Done ∧ Gen.Shapes.sleep_AddWaker = expect_sleep_AddWaker :=
  ⟨rfl, rfl⟩

end Props.C19
