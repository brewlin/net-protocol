import NetProto.Spec.Frame
import NetProto.Model.Wire
import NetProto.Model.Tcp
import NetProto.Props.C15
import NetProto.Generated.Shapes
/-! # C06 — every frame the stack emits is well-formed, checksummed and correctly addressed

Spec: `Spec/Frame.lean`, a validator built only from the RFC-derived decoders of `Spec/Rfc.lean`.  Model: `Model/Wire.lean`,
what `ipv4.WritePacket`, `udp.sendUDP`, `tcp.sendTCP` and the IPv6 / ARP / Ethernet builders put on the wire.  Tie: every
captured frame is decoded, rebuilt with the model's constructors (the bytes must be identical) and run through the validator.

Not covered by a theorem here or in `Props/C06More.lean` (validator + rebuild only): the IPv6 fixed header (`ipv6Packet`,
`checkIPv6`); ICMPv6 neighbour discovery; the addressing clauses (source of the chosen interface, ports, resolved
destination MAC), judged on the real stack. -/
namespace Props.C06
open Spec.Rfc Spec.Frame Model.Header Model.Wire

/-! Every validity theorem below has two halves.  The frame is `pre ++ be16 c ++ post` with `c` the complement of the
sender's chain of `Checksum` calls; by `C15.checksum_rep` that chain folds the integer sum the receiver folds, so
`C15.verifies_fill` applies.  And the RFC decoder reads the fields back from those bytes (`Props.Hdr.decodeX_bytes`). -/

theorem ocRep_idem (s : Nat) : C15.ocRep (C15.ocRep s) = C15.ocRep s :=
  C15.ocRep_of_lt _ (C15.ocRep_lt s)

theorem pseudoSum_eq (src dst : List Nat) (proto len : Nat) (hsb : C15.Bytes src) (hdb : C15.Bytes dst)
    (hl : src.length = dst.length) (h416 : src.length = 4 ∨ src.length = 16) (hp : proto < 256) (hlen : len < 65536) :
    pseudoSum src dst proto len = C15.ocRep (C15.wsum src + C15.wsum dst + proto + len) := by
  -- both forms are the two addresses followed by an even number of bytes whose words add up to `proto + len`
  have key : ∀ X : List Nat, C15.Bytes X → C15.wsum X = proto + len →
      ocSum (src ++ dst ++ X) 0 = C15.ocRep (C15.wsum src + C15.wsum dst + proto + len) := fun X hX hw => by
    rw [C15.ocSum_eq _ 0 (C15.bytes_append (C15.bytes_append hsb hdb) hX) (by decide),
      C15.wsum_append_even _ X (by rw [List.length_append]; omega), C15.wsum_append_even src dst (by omega), hw]
    refine congrArg C15.ocRep ?_
    omega
  unfold pseudoSum
  split
  · rw [List.append_assoc (src ++ dst)]
    refine key _ (C15.bytes_append (C15.bytes_be32 _) (by simp [C15.bytes_cons, C15.bytes_nil, hp])) ?_
    show C15.wsum (be32 len ++ [0, 0, 0, proto]) = _
    rw [C15.wsum_append_even (be32 len) _ (by simp [be32]), C15.wsum_be32 _ (by omega), C15.wsum_cons_cons, C15.wsum_cons_cons, C15.wsum_nil]
    omega
  · rw [List.append_assoc (src ++ dst)]
    refine key _ (C15.bytes_append (by simp [C15.bytes_cons, C15.bytes_nil, hp]) (C15.bytes_be16 _)) ?_
    show C15.wsum ([0, proto] ++ be16 len) = _
    rw [C15.wsum_append_even [0, proto] _ (by simp), C15.wsum_be16 _ hlen, C15.wsum_cons_cons, C15.wsum_nil]
    omega

/-- `P` is the pseudo header's integer sum: the receiver's fold starts from it and the sender's chain contains it -/
theorem transport_sums (proto len : Nat) (src dst pre post payload : List Nat)
    (hsb : C15.Bytes src) (hdb : C15.Bytes dst) (hb1 : C15.Bytes pre) (hb2 : C15.Bytes post) (hpb : C15.Bytes payload)
    (hl : src.length = dst.length) (h416 : src.length = 4 ∨ src.length = 16) (hp : proto < 256) (hlen : len < 65536)
    (hpre : pre.length % 2 = 0) (hpost : post.length % 2 = 0) (hh : pre.length + post.length ≤ 65533)
    (hpl : payload.length ≤ 65535) :
    ∃ P, pseudoSum src dst proto len = C15.ocRep P ∧
      checksum (pre ++ be16 0 ++ post) (checksum (be16 len) (checksum payload (pseudoHeaderChecksum proto src dst))) =
        C15.ocRep (P + C15.wsum pre + C15.wsum (post ++ payload)) := by
  refine ⟨C15.wsum src + C15.wsum dst + proto + len, pseudoSum_eq src dst proto len hsb hdb hl h416 hp hlen, ?_⟩
  unfold pseudoHeaderChecksum
  rw [C15.checksum_zero src hsb (by omega), C15.checksum_rep dst _ hdb (by omega),
    C15.checksum_rep _ _ (by simp [C15.bytes_cons, C15.bytes_nil, Nat.mod_lt] : C15.Bytes [0, proto % 256]) (show 2 ≤ 131070 by decide),
    C15.checksum_rep payload _ hpb (by omega), C15.checksum_rep _ _ (C15.bytes_be16 _) (show 2 ≤ 131070 by decide),
    C15.wsum_be16 _ hlen, C15.wsum_cons_cons, C15.wsum_nil, Nat.mod_eq_of_lt hp,
    C15.checksum_rep _ _ (C15.bytes_append (C15.bytes_append hb1 (C15.bytes_be16 _)) hb2)
      (by simp only [List.length_append, be16, List.length_cons, List.length_nil]; omega),
    C15.wsum_append_even _ post (by simp only [List.length_append, be16, List.length_cons, List.length_nil]; omega),
    C15.wsum_append_even pre _ hpre, C15.wsum_append_even post payload hpost, C15.wsum_be16 _ (by decide)]
  refine congrArg C15.ocRep ?_
  omega

theorem udp_datagram_length (src dst : List Nat) (sp dp : Nat) (payload : List Nat) :
    (udpDatagram src dst sp dp payload).length = 8 + payload.length := by
  simp only [udpDatagram, udpEncode, List.length_append, Props.Hdr.length_setAt, zeros, List.length_replicate]

/-- **C06 (UDP)**: every datagram `sendUDP` builds, over IPv4 or IPv6, has a length field equal to its length and a
checksum that is present and verifies under the pseudo-header rule -/
theorem udp_datagram_valid (src dst : List Nat) (sp dp : Nat) (payload : List Nat)
    (hsb : C15.Bytes src) (hdb : C15.Bytes dst) (hpb : C15.Bytes payload)
    (hl : src.length = dst.length) (h416 : src.length = 4 ∨ src.length = 16)
    (hsp : sp < 65536) (hdp : dp < 65536) (hlen : 8 + payload.length ≤ 65535) :
    checkUDP src dst (udpDatagram src dst sp dp payload) = [] := by
  have hh : udpEncode (zeros 8) ⟨sp, dp, 8 + payload.length, 0⟩ =
      be16 sp ++ be16 dp ++ be16 (8 + payload.length) ++ be16 0 ++ [] := Props.Hdr.udpEncode_bytes _ _ (by decide)
  generalize hpre : be16 sp ++ be16 dp ++ be16 (8 + payload.length) = pre at hh
  have hprel : pre.length = 6 := by rw [← hpre]; rfl
  have hpreb : C15.Bytes pre := by
    rw [← hpre]; exact C15.bytes_append (C15.bytes_append (C15.bytes_be16 _) (C15.bytes_be16 _)) (C15.bytes_be16 _)
  obtain ⟨P, hrecv, hsend⟩ := transport_sums 17 (8 + payload.length) src dst pre [] payload hsb hdb hpreb C15.bytes_nil hpb
    hl h416 (by decide) (by omega) (by omega) rfl (by simp only [List.length_nil]; omega) (by omega)
  have hver := C15.verifies_fill_or_ones pre ([] ++ payload) P (by omega) hpreb hpb
  generalize hx : checksum (pre ++ be16 0 ++ []) _ = x at hsend
  rw [← hsend] at hver
  generalize hf : (if 65535 - x == 0 then 65535 else 65535 - x) = f at hver
  have hf0 : f ≠ 0 ∧ f < 65536 := by
    rw [← hf]; split
    · omega
    · rename_i h; rw [beq_iff_eq] at h; omega
  have hdg : udpDatagram src dst sp dp payload = pre ++ be16 f ++ ([] ++ payload) := by
    unfold udpDatagram udpCalculateChecksum
    simp only
    rw [hh, List.take_of_length_le (by simp [hprel, be16]), hx, hf, Props.Hdr.setAt_mid pre (be16 0) [] (be16 f) 6 hprel rfl,
      List.append_assoc]
  have hdl : (pre ++ be16 f ++ ([] ++ payload)).length = 8 + payload.length := by simp [hprel, be16]; omega
  rw [checkUDP, hdg, hdl, show protoUDP = 17 from rfl, hrecv, ← hpre, Props.Hdr.decodeUDP_bytes sp dp _ f _ hsp hdp (by omega) hf0.2, hpre]
  simp only [verifies, hver, beq_false_of_ne hf0.1, bne_self_eq_false, beq_self_eq_true, Bool.false_eq_true, ↓reduceIte,
    List.append_nil]

theorem ipv4_fixed_bytes (tl id ttl proto : Nat) (httl : ttl < 256) (hproto : proto < 256) :
    C15.Bytes ([69, 0] ++ be16 tl ++ be16 id ++ be16 0 ++ [ttl, proto]) :=
  C15.bytes_append (C15.bytes_append (C15.bytes_append (C15.bytes_append (by simp [C15.bytes_cons, C15.bytes_nil])
    (C15.bytes_be16 _)) (C15.bytes_be16 _)) (C15.bytes_be16 _)) (by simp [C15.bytes_cons, C15.bytes_nil, httl, hproto])

theorem ipv4_header_bytes (id ttl proto : Nat) (src dst : List Nat) (n : Nat)
    (hs : src.length = 4) (hd : dst.length = 4) (hsb : C15.Bytes src) (hdb : C15.Bytes dst)
    (httl : ttl < 256) (hproto : proto < 256) :
    ipv4Header id ttl proto src dst n = [69, 0] ++ be16 (20 + n) ++ be16 id ++ be16 0 ++ [ttl, proto] ++
      be16 (65535 - C15.ocRep (0 + C15.wsum ([69, 0] ++ be16 (20 + n) ++ be16 id ++ be16 0 ++ [ttl, proto]) +
        C15.wsum (src ++ dst))) ++ (src ++ dst) := by
  have hpreb := ipv4_fixed_bytes (20 + n) id ttl proto httl hproto
  generalize hpre : [69, 0] ++ be16 (20 + n) ++ be16 id ++ be16 0 ++ [ttl, proto] = pre at hpreb
  have hprel : pre.length = 10 := by rw [← hpre]; rfl
  have hh : ipv4Encode (zeros 20) ⟨20, 0, 20 + n, id, 0, 0, ttl, proto, 0, src, dst⟩ = pre ++ be16 0 ++ (src ++ dst) := by
    rw [Props.Hdr.ipv4Encode_bytes _ _ (by decide) hs hd, ← hpre, show List.drop 20 (zeros 20) = [] from rfl, List.append_nil]
    simp only [Nat.reduceDiv, Nat.reduceMod, Nat.reduceAdd, Nat.reduceMul, Nat.or_self]
  -- `0 +`: the shape `s + wsum pre + wsum post` of `C15.verifies_fill`, with nothing summed before the header
  have hck : checksum (pre ++ be16 0 ++ (src ++ dst)) 0 = C15.ocRep (0 + C15.wsum pre + C15.wsum (src ++ dst)) := by
    rw [C15.checksum_zero _ (C15.bytes_append (C15.bytes_append hpreb (C15.bytes_be16 _)) (C15.bytes_append hsb hdb))
        (by simp [hprel, hs, hd, be16]),
      C15.wsum_append_even _ _ (by rw [List.length_append, hprel]; rfl), C15.wsum_append_even pre _ (by omega),
      C15.wsum_be16 _ (by decide), Nat.zero_add, Nat.add_zero]
  unfold ipv4Header
  simp only
  rw [hh, hck, Props.Hdr.setAt_mid pre (be16 0) (src ++ dst) _ 10 hprel (by rfl)]

/-- **C06 (IPv4)**: the header `ipv4.WritePacket` builds decodes to version 4, 20 bytes, the packet's length and the
fields handed in, and its checksum verifies -/
theorem ipv4_header_valid (id ttl proto : Nat) (src dst : List Nat) (n : Nat)
    (hs : src.length = 4) (hd : dst.length = 4) (hsb : C15.Bytes src) (hdb : C15.Bytes dst)
    (hid : id < 65536) (httl : ttl < 256) (hproto : proto < 256) (hn : 20 + n ≤ 65535) :
    (ipv4Header id ttl proto src dst n).length = 20 ∧
    decodeIPv4 (ipv4Header id ttl proto src dst n) = some ⟨4, 5, 0, 20 + n, id, 0, 0, ttl, proto,
        65535 - C15.ocRep (17664 + (20 + n) + id + (ttl * 256 + proto) + C15.wsum src + C15.wsum dst), src, dst⟩ ∧
    verifies (ipv4Header id ttl proto src dst n) 0 = true := by
  rw [ipv4_header_bytes id ttl proto src dst n hs hd hsb hdb httl hproto]
  refine ⟨by simp [be16, hs, hd], ?_, ?_⟩
  · have hS : 0 + C15.wsum ([69, 0] ++ be16 (20 + n) ++ be16 id ++ be16 0 ++ [ttl, proto]) + C15.wsum (src ++ dst) =
        17664 + (20 + n) + id + (ttl * 256 + proto) + C15.wsum src + C15.wsum dst := by
      simp only [be16, List.cons_append, List.nil_append, C15.wsum_cons_cons, C15.wsum_nil, C15.wsum_append_even src dst (by omega),
        Props.Hdr.be16_val _ (show 20 + n < 65536 by omega), Props.Hdr.be16_val _ hid]
      omega
    rw [hS, ← List.append_nil (src ++ dst)]
    exact Props.Hdr.decodeIPv4_bytes 69 0 (20 + n) id 0 ttl proto _ src dst [] (by decide) (by decide) (by omega) hid
      (by decide) httl hproto (by omega) hs hd
  · exact beq_iff_eq.mpr (C15.verifies_fill _ (src ++ dst) 0 (by show 10 % 2 = 0; rfl) (ipv4_fixed_bytes _ _ _ _ httl hproto)
      (C15.bytes_append hsb hdb))

theorem decodeIPv4_prefix (h p : List Nat) (hl : h.length = 20) : decodeIPv4 (h ++ p) = decodeIPv4 h := by
  unfold decodeIPv4 row
  have e : ∀ a n, a + n ≤ 20 → ((h ++ p).drop a).take n = (h.drop a).take n := fun a n hh => by
    rw [List.drop_append_of_le_length (by omega), List.take_append_of_le_length (by simp; omega)]
  simp only [List.length_append, hl]
  rw [if_neg (by omega), if_neg (by omega)]
  rw [e (4 * 0) 4 (by omega), e (4 * 1) 4 (by omega), e (4 * 2) 4 (by omega), e 12 4 (by omega), e 16 4 (by omega)]

theorem ipv4_packet_valid (id ttl proto : Nat) (src dst payload : List Nat)
    (hs : src.length = 4) (hd : dst.length = 4) (hsb : C15.Bytes src) (hdb : C15.Bytes dst)
    (hid : id < 65536) (httl : ttl < 256) (hproto : proto < 256) (hlen : 20 + payload.length ≤ 65535)
    (htr : checkTransport proto src dst payload = []) : checkIPv4 (ipv4Packet id ttl proto src dst payload) = [] := by
  obtain ⟨hl, hdec, hver⟩ := ipv4_header_valid id ttl proto src dst payload.length hs hd hsb hdb hid httl hproto hlen
  unfold checkIPv4 ipv4Packet
  generalize ipv4Header id ttl proto src dst payload.length = H at hl hdec hver ⊢
  rw [decodeIPv4_prefix _ _ hl, hdec]
  have htake : (H ++ payload).take (5 * 4) = H := List.take_left' hl
  have hdrop : (H ++ payload).drop (5 * 4) = payload := List.drop_left' hl
  simp [hl, htake, hdrop, hver, htr]

/-- **C06 (UDP over IPv4)**: a whole packet as `sendUDP` + `ipv4.WritePacket` emit it passes the RFC validator -/
theorem udp4_packet_valid (id ttl : Nat) (src dst : List Nat) (sp dp : Nat) (payload : List Nat)
    (hs : src.length = 4) (hd : dst.length = 4) (hsb : C15.Bytes src) (hdb : C15.Bytes dst) (hpb : C15.Bytes payload)
    (hid : id < 65536) (httl : ttl < 256) (hsp : sp < 65536) (hdp : dp < 65536) (hlen : 20 + 8 + payload.length ≤ 65535) :
    checkIPv4 (ipv4Packet id ttl 17 src dst (udpDatagram src dst sp dp payload)) = [] := by
  apply ipv4_packet_valid id ttl 17 src dst _ hs hd hsb hdb hid httl (by decide) (by rw [udp_datagram_length]; omega)
  rw [checkTransport, if_neg (by decide), if_pos (by decide)]
  exact udp_datagram_valid src dst sp dp payload hsb hdb hpb (by omega) (Or.inl hs) hsp hdp (by omega)

theorem tcp_header_bytes (sp dp seq ack flags wnd ck : Nat) (opts : List Nat) (k : Nat) (hol : opts.length = 4 * k) (hk : k ≤ 10) :
    setAt (tcpEncode (zeros (20 + opts.length)) ⟨sp, dp, seq, ack, 20 + opts.length, flags, wnd, ck, 0⟩) 20 opts =
      be16 sp ++ be16 dp ++ be32 seq ++ be32 ack ++ [(5 + k) * 16, flags] ++ be16 wnd ++ be16 ck ++ (be16 0 ++ opts) := by
  rw [Props.Hdr.tcpEncode_bytes _ _ (by simp [zeros]), show (zeros (20 + opts.length)).drop 20 = zeros opts.length by simp [zeros],
    ← List.append_assoc _ (be16 0)]
  simp only [show (20 + opts.length) / 4 * 16 % 256 = (5 + k) * 16 by omega]
  have := Props.Hdr.setAt_mid (be16 sp ++ be16 dp ++ be32 seq ++ be32 ack ++ [(5 + k) * 16, flags] ++ be16 wnd ++ be16 ck ++ be16 0)
    (zeros opts.length) [] opts 20 rfl (by simp [zeros])
  rw [List.append_nil, List.append_nil] at this
  rw [this, List.append_assoc _ (be16 0)]

/-- **C06 (TCP)**: every segment `sendTCP` builds with a well-formed option block of whole words (at most 40 bytes) has
a data offset covering header and options, options that parse under the strict grammar, clear reserved bits and a
checksum that verifies with the pseudo header (IPv4 or IPv6) -/
theorem tcp_segment_valid (src dst : List Nat) (sp dp seq ack flags wnd : Nat) (opts payload : List Nat) (k : Nat)
    (hsb : C15.Bytes src) (hdb : C15.Bytes dst) (hpb : C15.Bytes payload) (hob : C15.Bytes opts)
    (hl : src.length = dst.length) (h416 : src.length = 4 ∨ src.length = 16)
    (hsp : sp < 65536) (hdp : dp < 65536) (hseq : seq < 4294967296) (hack : ack < 4294967296) (hfl : flags < 256)
    (hol : opts.length = 4 * k) (hk : k ≤ 10) (hopt : (decodeOptions opts).isSome = true)
    (hlen : 20 + opts.length + payload.length ≤ 65535) :
    checkTCP src dst (tcpSegment src dst sp dp seq ack flags wnd opts payload) = [] := by
  -- `min`, `/` and `%` are kept out of the context: every later `omega` would pay for them
  obtain ⟨w, hwe, hw⟩ : ∃ w, min wnd 65535 = w ∧ w < 65536 := ⟨_, rfl, by omega⟩
  -- `pre ++ checksum ++ (urgent pointer ++ (options ++ payload))`: the one form that is filled, summed and decoded
  have hdr := fun ck => tcp_header_bytes sp dp seq ack flags w ck opts k hol hk
  have hdec := fun c rest => Props.Hdr.decodeTCP_bytes sp dp seq ack ((5 + k) * 16) flags w c 0 rest hsp hdp hseq hack
    (by omega) hfl hw
  generalize hpre : be16 sp ++ be16 dp ++ be32 seq ++ be32 ack ++ [(5 + k) * 16, flags] ++ be16 w = pre at hdr hdec
  have hprel : pre.length = 16 := by rw [← hpre]; rfl
  have hpreb : C15.Bytes pre := by
    rw [← hpre]
    exact C15.bytes_append (C15.bytes_append (C15.bytes_append (C15.bytes_append (C15.bytes_append (C15.bytes_be16 _)
      (C15.bytes_be16 _)) (C15.bytes_be32 _)) (C15.bytes_be32 _)) (by simp [C15.bytes_cons, C15.bytes_nil, hfl]; omega))
      (C15.bytes_be16 _)
  have hpostb : C15.Bytes (be16 0 ++ opts) := C15.bytes_append (C15.bytes_be16 0) hob
  have hH0l : (pre ++ be16 0 ++ (be16 0 ++ opts)).length = 20 + opts.length := by simp [hprel, be16]; omega
  have hdo : tcpDataOffset (pre ++ be16 0 ++ (be16 0 ++ opts)) = 20 + opts.length := by
    rw [← hpre]
    show (5 + k) * 16 / 16 * 4 = 20 + opts.length
    omega
  obtain ⟨P, hrecv, hsend⟩ := transport_sums protoTCP (20 + opts.length + payload.length) src dst pre (be16 0 ++ opts) payload
    hsb hdb hpreb hpostb hpb hl h416 (by decide) (by omega) (by omega) (by simp [be16]; omega) (by simp [hprel, be16]; omega) (by omega)
  rw [List.append_assoc (be16 0)] at hsend
  generalize hc : 65535 - C15.ocRep (P + C15.wsum pre + C15.wsum (be16 0 ++ (opts ++ payload))) = c
  have hseg : tcpSegment src dst sp dp seq ack flags wnd opts payload = pre ++ be16 c ++ (be16 0 ++ (opts ++ payload)) := by
    unfold tcpSegment
    simp only
    rw [hwe, hdr 0, tcpCalculateChecksum, hdo, List.take_of_length_le (Nat.le_of_eq hH0l), show (6 : Nat) = protoTCP from rfl,
      hsend, hc, Props.Hdr.setAt_mid pre (be16 0) _ (be16 c) 16 hprel rfl, List.append_assoc, List.append_assoc (be16 0)]
  have hlen2 : (pre ++ be16 c ++ (be16 0 ++ (opts ++ payload))).length = 20 + opts.length + payload.length := by
    simp [hprel, be16]; omega
  have hopts : ((pre ++ be16 c ++ (be16 0 ++ (opts ++ payload))).take ((5 + k) * 4)).drop 20 = opts := by
    have l20 : (pre ++ be16 c ++ be16 0).length = 20 := by simp [hprel, be16]
    rw [← List.append_assoc _ (be16 0), show (5 + k) * 4 = (pre ++ be16 c ++ be16 0).length + opts.length by omega,
      List.take_length_add_append, List.take_left' rfl, List.drop_left' l20]
  have hver : verifies (pre ++ be16 c ++ (be16 0 ++ (opts ++ payload))) (pseudoSum src dst protoTCP (20 + opts.length + payload.length)) = true := by
    rw [hrecv, ← hc]
    exact beq_iff_eq.mpr (C15.verifies_fill pre _ P (by omega) hpreb (C15.bytes_append (C15.bytes_be16 0) (C15.bytes_append hob hpb)))
  rw [checkTCP, hseg, hdec c _ (by omega) (by decide), show (5 + k) * 16 / 16 = 5 + k by omega, show (5 + k) * 16 % 16 = 0 by omega]
  have c1 : ¬ (5 + k < 5) := by omega
  have c2 : ¬ ((5 + k) * 4 > 20 + opts.length + payload.length) := by omega
  simp only [hlen2, c1, c2, hopts, hver, ↓reduceIte, List.nil_append]
  cases ho : decodeOptions opts with
  | none => rw [ho] at hopt; simp at hopt
  | some v => simp

/-- complete options, each with the length its kind demands, no end-of-list byte: a predicate on raw bytes that parses
under the strict grammar by construction, so the blocks the stack builds are shown well formed by naming constructors -/
inductive WFOpts : List Nat → Prop
  | nil : WFOpts []
  | nop {t : List Nat} : WFOpts t → WFOpts (1 :: t)
  | opt (k : Nat) (d : List Nat) {t : List Nat} (hk : 2 ≤ k)
      (hlen : (k = 2 → d.length = 2) ∧ (k = 3 → d.length = 1) ∧ (k = 4 → d.length = 0) ∧ (k = 8 → d.length = 8) ∧
        (k = 5 → d.length % 8 = 0)) :
      WFOpts t → WFOpts (k :: (d.length + 2) :: (d ++ t))

theorem WFOpts.append {a b : List Nat} (ha : WFOpts a) (hb : WFOpts b) : WFOpts (a ++ b) := by
  induction ha with
  | nil => exact hb
  | nop _ ih => exact .nop ih
  | opt k d hk hlen _ ih => rw [List.cons_append, List.cons_append, List.append_assoc]; exact .opt k d hk hlen ih

theorem decodeOpts_wf {b : List Nat} (h : WFOpts b) : ∀ f, b.length < f → (decodeOpts f b).isSome = true := by
  -- `decodeOpts.eq_2`, `eq_4`, `eq_6`: the equations for the empty list, a NOP, an option with a length byte (numbered by
  -- the match arms of `Spec.Rfc.decodeOpts`: they shift if an arm is added)
  induction h with
  | nil =>
    intro f hf
    rw [decodeOpts.eq_2 f (by omega)]; rfl
  | nop _ ih =>
    intro f hf
    obtain ⟨f, rfl⟩ : ∃ f', f = f' + 1 := ⟨f - 1, by omega⟩
    rw [decodeOpts.eq_4, Option.isSome_map]
    exact ih f (by simpa using hf)
  | @opt k d t hk hlen _ ih =>
    intro f hf
    obtain ⟨f, rfl⟩ : ∃ f', f = f' + 1 := ⟨f - 1, by omega⟩
    obtain ⟨r, hr⟩ := Option.isSome_iff_exists.mp
      (ih f (by simp only [List.length_cons, List.length_append] at hf; omega))
    have h1 : ¬ ((decide (d.length + 2 < 2) || decide ((d ++ t).length < d.length + 2 - 2)) = true) := by
      simp only [List.length_append, Nat.add_sub_cancel, Bool.or_eq_true, decide_eq_true_eq]; omega
    rw [decodeOpts.eq_6 f k _ _ (by omega) (by omega), if_neg h1]
    simp only [Nat.add_sub_cancel, List.take_left', List.drop_left', hr]
    -- the length test of the option's kind: `hlen`
    grind

theorem wellformed_block {b : List Nat} (h : WFOpts b) (h4 : b.length % 4 = 0) (h40 : b.length ≤ 40) :
    ∃ k, b.length = 4 * k ∧ k ≤ 10 ∧ (decodeOptions b).isSome = true :=
  ⟨b.length / 4, by omega, by omega, decodeOpts_wf h _ (Nat.lt_succ_self _)⟩

/-- the option block of a SYN / SYN-ACK (`makeSynOptions`), for every combination of its arguments: whole 32-bit words,
at most the ten a data offset can express, well formed under the strict grammar -/
theorem makeSynOptions_wellformed (mss : Nat) (ws : Int) (ts : Bool) (tsVal tsEcr : Nat) (sp : Bool) :
    ∃ k, (Model.Tcp.makeSynOptions mss ws ts tsVal tsEcr sp).length = 4 * k ∧ k ≤ 10 ∧
      (decodeOptions (Model.Tcp.makeSynOptions mss ws ts tsVal tsEcr sp)).isSome = true := by
  have hwf : WFOpts (Model.Tcp.makeSynOptions mss ws ts tsVal tsEcr sp) := by
    unfold Model.Tcp.makeSynOptions
    refine ((WFOpts.opt 2 [_, _] (by decide) (by simp) .nil).append ?_).append ?_
    · split
      · exact .opt 4 [] (by decide) (by simp) (.opt 8 (be32 tsVal ++ be32 tsEcr) (by decide) (by simp [be32]) .nil)
      · split
        · exact .nop (.nop (.opt 8 (be32 tsVal ++ be32 tsEcr) (by decide) (by simp [be32]) .nil))
        · split
          · exact .nop (.nop (.opt 4 [] (by decide) (by simp) .nil))
          · exact .nil
    · split
      · exact .nop (.opt 3 [_] (by decide) (by simp) .nil)
      · exact .nil
  have hlen : (Model.Tcp.makeSynOptions mss ws ts tsVal tsEcr sp).length % 4 = 0 ∧
      (Model.Tcp.makeSynOptions mss ws ts tsVal tsEcr sp).length ≤ 40 := by
    unfold Model.Tcp.makeSynOptions
    cases ts <;> cases sp <;> by_cases hw : ws ≥ 0 <;> simp [hw, be32]
  exact wellformed_block hwf hlen.1 hlen.2

theorem wf_sack (bl : List (Nat × Nat)) : WFOpts (5 :: (bl.length * 8 + 2) :: blocksBytes bl) := by
  have := WFOpts.opt 5 (blocksBytes bl) (by decide) (by simp [Props.Hdr.blocksBytes_length]) .nil
  rwa [Props.Hdr.blocksBytes_length, List.append_nil, Nat.mul_comm] at this

/-- the option block of every other segment (`makeOptions`): likewise.  The model abstracts the clock: TSval is written
as zero, so this covers the blocks the stack builds up to that field's value -/
theorem makeOptions_wellformed (e : Model.Tcp.Ep) (withSack : Bool) :
    ∃ k, (Model.Tcp.makeOptions e withSack).length = 4 * k ∧ k ≤ 10 ∧ (decodeOptions (Model.Tcp.makeOptions e withSack)).isSome = true := by
  unfold Model.Tcp.makeOptions
  -- at most three blocks next to a timestamp, four without
  have hbl : (e.sack.take (if e.sendTSOk then 3 else 4)).length ≤ (if e.sendTSOk then 3 else 4) := by
    rw [List.length_take]; omega
  generalize e.sack.take (if e.sendTSOk then 3 else 4) = bl at hbl ⊢
  have hts : WFOpts ([1, 1, 8, 10, 0, 0, 0, 0] ++ be32 e.recentTS) :=
    .nop (.nop (.opt 8 [0, 0, 0, 0, _, _, _, _] (by decide) (by simp) .nil))
  have hsk : WFOpts ([1, 1, 5, bl.length * 8 + 2] ++ blocksBytes bl) := .nop (.nop (wf_sack bl))
  apply wellformed_block
  · exact WFOpts.append (by split; exact hts; exact .nil) (by split; exact hsk; exact .nil)
  all_goals
    simp only [List.length_append]
    split <;> rename_i h <;> simp only [h, ↓reduceIte, Bool.false_eq_true] at hbl <;> split <;>
      simp [Props.Hdr.blocksBytes_length, be32] <;> omega

theorem blocksBytes_bytes (bl : List (Nat × Nat)) : C15.Bytes (blocksBytes bl) := by
  induction bl with
  | nil => exact C15.bytes_nil
  | cons b t ih => exact C15.bytes_append (C15.bytes_append (C15.bytes_be32 b.1) (C15.bytes_be32 b.2)) ih

theorem makeOptions_bytes (e : Model.Tcp.Ep) (withSack : Bool) : C15.Bytes (Model.Tcp.makeOptions e withSack) := by
  unfold Model.Tcp.makeOptions
  generalize hbl : e.sack.take (if e.sendTSOk then 3 else 4) = bl
  have hbl4 : bl.length ≤ 4 := by rw [← hbl]; simp only [List.length_take]; split <;> omega
  apply C15.bytes_append
  · split
    · exact C15.bytes_append (by simp [C15.bytes_cons, C15.bytes_nil]) (C15.bytes_be32 _)
    · exact C15.bytes_nil
  · split
    · exact C15.bytes_append (by simp [C15.bytes_cons, C15.bytes_nil]; omega) (blocksBytes_bytes _)
    · exact C15.bytes_nil

/-- **C06 (TCP, connected state)**: whatever the endpoint's timestamp / SACK state, a segment `sendTCP` builds with
the options of `makeOptions` (TSval zero, see `makeOptions_wellformed`) passes the RFC validator -/
theorem tcp_segment_with_made_options_valid (e : Model.Tcp.Ep) (withSack : Bool) (src dst : List Nat) (sp dp seq ack flags wnd : Nat) (payload : List Nat)
    (hsb : C15.Bytes src) (hdb : C15.Bytes dst) (hpb : C15.Bytes payload) (hl : src.length = dst.length) (h416 : src.length = 4 ∨ src.length = 16)
    (hsp : sp < 65536) (hdp : dp < 65536) (hseq : seq < 4294967296) (hack : ack < 4294967296) (hfl : flags < 256)
    (hlen : 60 + payload.length ≤ 65535) :
    checkTCP src dst (tcpSegment src dst sp dp seq ack flags wnd (Model.Tcp.makeOptions e withSack) payload) = [] := by
  obtain ⟨k, hk, hk10, hopt⟩ := makeOptions_wellformed e withSack
  exact tcp_segment_valid src dst sp dp seq ack flags wnd _ payload k hsb hdb hpb (makeOptions_bytes e withSack) hl h416 hsp hdp hseq hack hfl hk hk10 hopt (by omega)

/-- consecutive values of the per-flow counter differ in the 16 bits that reach the header -/
theorem consecutive_ids_differ (c : Nat) : (c + 1) % 65536 ≠ c % 65536 := by omega

/-- the identifier of a large packet is the per-flow counter, incremented atomically, cut to 16 bits: the three source
statements, regenerated on every run -/
theorem id_statements_pinned :
    Gen.Shapes.ipv4_id_alloc = ["v8 := uint32(0)", "v8 = atomic.AddUint32(&ids[hashRoute(v1, v4)%buckets], 1)", "v6.Encode(&header.IPv4Fields{ IHL: header.IPv4MinimumSize, TotalLength: v7, ID: uint16(v8), TTL: v5, Protocol: uint8(v4), SrcAddr: v1.LocalAddress, DstAddr: v1.RemoteAddress, })"] := rfl

/-- a concrete datagram with an odd payload passes, and flipping one payload bit makes it fail -/
example : checkIPv4 (ipv4Packet 7 64 17 [10, 0, 0, 1] [10, 0, 0, 9] (udpDatagram [10, 0, 0, 1] [10, 0, 0, 9] 4000 53 [1, 2, 3])) = [] := by decide
example : checkIPv4 ((ipv4Packet 7 64 17 [10, 0, 0, 1] [10, 0, 0, 9] (udpDatagram [10, 0, 0, 1] [10, 0, 0, 9] 4000 53 [1, 2, 3])).set 30 9) = ["udp.checksum"] := by decide

end Props.C06
