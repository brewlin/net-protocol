import NetProto.Model.Net
/-!
# C11 — UDP datagrams arrive whole, unmerged, at most once each, from the right sender

About `udpHandle` (arrival), `udpRead`, `udpWrite` of `Model.Net`; `run` replays arrivals, reads and read-side shutdowns
on one endpoint.
-/
namespace C11
open Model.Net

theorem handle_whole (e : UdpEp) (nic : Nat) (src : Addr) (sport ulen : Nat) (payload : List Nat) :
    udpHandle e nic src sport ulen payload = e ∨
    udpHandle e nic src sport ulen payload =
      { e with rcvList := e.rcvList ++ [⟨payload, src, sport, nic⟩], rcvBufSize := e.rcvBufSize + payload.length } := by
  unfold udpHandle
  split
  · exact Or.inl rfl
  · split
    · exact Or.inl rfl
    · exact Or.inr rfl

/-- dropped whole when the buffer is full, the read side is closed, the socket is unbound, or the length field
    is longer than the packet -/
theorem drop_whole (e : UdpEp) (nic : Nat) (src : Addr) (sport ulen : Nat) (payload : List Nat)
    (h : ulen > payload.length + 8 ∨ e.rcvReady = false ∨ e.rcvClosed = true ∨ e.rcvBufSize ≥ e.rcvBufMax) :
    udpHandle e nic src sport ulen payload = e := by
  unfold udpHandle
  by_cases h1 : ulen > payload.length + 8
  · exact if_pos h1
  · rw [if_neg h1]
    apply if_pos
    rcases h with h | h | h | h
    · exact absurd h h1
    · simp [h]
    · simp [h]
    · simp [h]

/-- otherwise accepted in full, never truncated to the space left -/
theorem accept_whole (e : UdpEp) (nic : Nat) (src : Addr) (sport ulen : Nat) (payload : List Nat)
    (h1 : ulen ≤ payload.length + 8) (h2 : e.rcvReady = true) (h3 : e.rcvClosed = false)
    (h4 : e.rcvBufSize < e.rcvBufMax) :
    (udpHandle e nic src sport ulen payload).rcvList = e.rcvList ++ [⟨payload, src, sport, nic⟩] := by
  unfold udpHandle
  rw [if_neg (by omega), if_neg (by simp [h2, h3]; omega)]

inductive Ev
  | arrive (nic : Nat) (src : Addr) (sport ulen : Nat) (payload : List Nat)
  | read
  | shutdownRd

def evArr : Ev → List Dgram
  | .arrive nic src sport _ payload => [⟨payload, src, sport, nic⟩]
  | _ => []

/-- a history on one endpoint, collecting what the reads return. Arrivals call `udpHandle`; read and shutdown repeat on a
    bare `UdpEp` the field updates of `udpRead` and `udpShutdown` (which work on the socket table), so `reads_sublist`
    is about this copy, `read_fifo` about `udpRead` itself -/
def run : UdpEp → List Ev → UdpEp × List Dgram
  | e, [] => (e, [])
  | e, .arrive nic src sport ulen payload :: t => run (udpHandle e nic src sport ulen payload) t
  | e, .read :: t =>
    match e.rcvList with
    | [] => run e t
    | p :: q =>
      let (e', out) := run { e with rcvList := q, rcvBufSize := e.rcvBufSize - p.data.length } t
      (e', p :: out)
  | e, .shutdownRd :: t => run { e with rcvClosed := true, shutRd := true } t

/-- **Reads return exactly datagrams that arrived, whole, in arrival order, each at most once**: what was returned
    followed by what is still queued is a subsequence of what was queued before followed by the history's arrivals. -/
theorem reads_sublist (evs : List Ev) (e : UdpEp) :
    List.Sublist ((run e evs).2 ++ (run e evs).1.rcvList) (e.rcvList ++ evs.flatMap evArr) := by
  induction evs generalizing e with
  | nil => simp [run]
  | cons ev t ih =>
    cases ev with
    | arrive nic src sport ulen payload =>
      simp only [run, List.flatMap_cons, evArr]
      have := ih (udpHandle e nic src sport ulen payload)
      rcases handle_whole e nic src sport ulen payload with h | h <;> rw [h] at this ⊢
      · exact this.trans (List.Sublist.append (List.Sublist.refl _) (List.sublist_append_right _ _))
      · simpa [List.append_assoc] using this
    | read =>
      simp only [run, List.flatMap_cons, evArr, List.nil_append]
      cases hq : e.rcvList with
      | nil => simpa [hq] using ih e
      | cons p q =>
        have := ih { e with rcvList := q, rcvBufSize := e.rcvBufSize - p.data.length }
        simp only [List.cons_append]
        exact List.Sublist.cons_cons p this
    | shutdownRd =>
      simp only [run, List.flatMap_cons, evArr, List.nil_append]
      exact ih { e with rcvClosed := true, shutRd := true }

/-- a read takes the oldest queued datagram, whole -/
theorem read_fifo (w : World) (i : Nat) (e : UdpEp) (p : Dgram) (q : List Dgram)
    (he : w.udp[i]? = some e) (hq : e.rcvList = p :: q) : (udpRead w i).2 = .ok p := by
  simp [udpRead, he, hq]

/-- nothing arrives after the read side is closed -/
theorem closed_no_arrival (e : UdpEp) (h : e.rcvClosed = true) (nic : Nat) (src : Addr) (sport ulen : Nat)
    (payload : List Nat) : udpHandle e nic src sport ulen payload = e :=
  drop_whole e nic src sport ulen payload (Or.inr (Or.inr (Or.inl h)))

theorem emitUdp_eq (fam : Nat) (la ra : Addr) (lport dport : Nat) (payload : List Nat) :
    (payload.length ≤ 65535 - 8 ∧
      emitUdp fam la ra lport dport payload = .ok (payload.length, ⟨fam, la, ra, lport, dport, payload⟩)) ∨
    emitUdp fam la ra lport dport payload = .error .tooLong := by
  unfold emitUdp
  by_cases hc : payload.length > (if (fam == v4) = true then 65535 - 20 - 8 else 65535 - 8)
  · exact Or.inr (if_pos hc)
  · exact Or.inl ⟨by split at hc <;> omega, if_neg hc⟩

theorem udpWrite_result (w : World) (i : Nat) (to : Option (Addr × Nat)) (payload : List Nat) (lp : Nat) :
    (∃ err, (udpWrite w i to payload lp).2 = .error err) ∨
    ∃ w1 e fam la ra dport, writeRoute w1 e to = .ok (fam, la, ra, dport) ∧
      (udpWrite w i to payload lp).2 = emitUdp fam la ra e.id.lport dport payload := by
  unfold udpWrite
  split
  · exact Or.inl ⟨_, rfl⟩
  · split
    · exact Or.inl ⟨_, rfl⟩
    · split
      · exact Or.inl ⟨_, rfl⟩
      · split
        · exact Or.inl ⟨_, rfl⟩
        · split
          · exact Or.inl ⟨_, rfl⟩
          · split
            · exact Or.inl ⟨_, rfl⟩
            · next hroute => exact Or.inr ⟨_, _, _, _, _, _, hroute, rfl⟩

theorem writeRoute_dport (w : World) (e : UdpEp) (a : Addr) (p fam : Nat) (la ra : Addr) (dport : Nat)
    (h : writeRoute w e (some (a, p)) = .ok (fam, la, ra, dport)) : dport = p := by
  unfold writeRoute at h
  simp only at h
  split at h
  · cases h
  · split at h
    · cases h
    · cases h; rfl

/-- **a successful write emits one packet carrying exactly the bytes written** (to the requested port when one is
    given) and reports their count -/
theorem write_one_packet (w : World) (i : Nat) (to : Option (Addr × Nat)) (payload : List Nat) (lp n : Nat) (pkt : OutPkt)
    (h : (udpWrite w i to payload lp).2 = .ok (n, pkt)) :
    pkt.payload = payload ∧ n = payload.length ∧ payload.length ≤ 65535 - 8 ∧
    (∀ a p, to = some (a, p) → pkt.dport = p) := by
  rcases udpWrite_result w i to payload lp with ⟨err, he⟩ | ⟨w1, e, fam, la, ra, dport, hroute, he⟩ <;> rw [he] at h
  · cases h
  · rcases emitUdp_eq fam la ra e.id.lport dport payload with ⟨hl, hok⟩ | herr <;> rw [h] at *
    · cases hok
      exact ⟨rfl, rfl, hl, fun a p hto => writeRoute_dport w1 e a p fam la ra dport (hto ▸ hroute)⟩
    · cases herr

/-- beyond what the length fields can carry the write fails, whatever the socket state: an earlier error, or "message
    too long" -/
theorem write_fails_beyond (w : World) (i : Nat) (to : Option (Addr × Nat)) (payload : List Nat) (lp : Nat)
    (h : payload.length > 65535 - 8) : ∃ err, (udpWrite w i to payload lp).2 = .error err := by
  rcases udpWrite_result w i to payload lp with he | ⟨w1, e, fam, la, ra, dport, _, he⟩
  · exact he
  · rcases emitUdp_eq fam la ra e.id.lport dport payload with ⟨hl, _⟩ | herr
    · omega
    · exact ⟨_, he.trans herr⟩

/-- an unbound v4 socket in a one-NIC world writes 3 bytes to 10.0.0.9:9 -/
example :
    let w : World := { nics := [{ id := 1, addrs := [(v4, [10, 0, 0, 1])] }],
                       routes := [⟨[0, 0, 0, 0], [0, 0, 0, 0], [], 1⟩], udp := [{ netProto := v4 }] }
    (udpWrite w 0 (some ([10, 0, 0, 9], 9)) [1, 2, 3] 20000).2 =
      .ok (3, ⟨v4, [10, 0, 0, 1], [10, 0, 0, 9], 20000, 9, [1, 2, 3]⟩) := by
  rfl

end C11
