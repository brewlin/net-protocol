import NetProto.Generated.Shapes
import NetProto.Model.Net
import NetProto.Props.C15
/-!
# C13 — echo requests are answered once, mirroring identifier, sequence number and payload

Model: `Model.Net.echo4Reply` / `echo6Reply`; `fl` is the length of the message's first view.  Beyond `queue_cap_anchor`
no theorem speaks of "answered once".
-/
namespace C13
open Model.Net Model.Header Spec.Rfc

/-- the reply queue holds ten requests, as the property says (regenerated from `make(chan echoRequest, 10)`) -/
theorem queue_cap_anchor : Gen.Shapes.ipv4_echoRequests_cap = 10 ∧ echoQueueCap = 10 := by decide

theorem getD_take (msg : List Nat) (fl i : Nat) (h : i < fl) : (msg.take fl).getD i 0 = msg.getD i 0 := by
  simp [List.getD_eq_getElem?_getD, h]

theorem echo4Reply_eq_some (msg : List Nat) (fl : Nat) (r : List Nat) :
    echo4Reply msg fl = some r ↔ 6 ≤ fl ∧ 6 ≤ msg.length ∧ msg.getD 0 0 = 8 ∧
      r = [0, 0] ++ be16 (65535 - checksum ([0, 0, 0, 0] ++ (msg.drop 4).take 2) (checksum ((msg.drop 4).drop 2) 0)) ++
        msg.drop 4 := by
  unfold echo4Reply
  simp only [List.length_take]
  by_cases h6 : 6 ≤ fl ∧ 6 ≤ msg.length
  · rw [getD_take msg fl 0 (by omega), if_neg (by omega)]
    by_cases h8 : msg.getD 0 0 = 8
    · rw [bne_eq_false_iff_eq.mpr h8, if_neg Bool.false_ne_true, if_neg (by omega), Option.some.injEq]
      exact ⟨fun h => ⟨h6.1, h6.2, h8, h.symm⟩, fun h => h.2.2.2.symm⟩
    · rw [bne_iff_ne.mpr h8, if_pos rfl]
      exact ⟨fun h => (nomatch h), fun h => absurd h.2.2.1 h8⟩
  · constructor
    · intro h
      split at h
      · simp at h
      · split at h
        · simp at h
        · rw [if_pos (by omega)] at h; simp at h
    · intro h; exact absurd ⟨h.1, h.2.1⟩ h6

/-- only echo requests (type 8) of at least six bytes (type, code, checksum, identifier) are answered -/
theorem echo4_only_requests (msg : List Nat) (fl : Nat) (r : List Nat) (h : echo4Reply msg fl = some r) :
    msg.getD 0 0 = 8 ∧ 6 ≤ msg.length := by
  obtain ⟨-, h6, h8, -⟩ := (echo4Reply_eq_some msg fl r).mp h
  exact ⟨h8, h6⟩

/-- **the reply mirrors the request**: type 0, code 0, identifier, sequence number and payload byte for byte -/
theorem echo4_mirrors (msg : List Nat) (fl : Nat) (r : List Nat) (h : echo4Reply msg fl = some r) :
    r.take 2 = [0, 0] ∧ r.drop 4 = msg.drop 4 ∧ r.length = msg.length := by
  obtain ⟨-, h6, -, rfl⟩ := (echo4Reply_eq_some msg fl r).mp h
  refine ⟨rfl, rfl, ?_⟩
  simp [be16]
  omega

/-- **the reply's checksum verifies**, for every message of up to 65 535 bytes, odd or even length -/
theorem echo4_checksum_valid (msg : List Nat) (fl : Nat) (r : List Nat) (hb : C15.Bytes msg)
    (hlen : msg.length ≤ 65535) (h : echo4Reply msg fl = some r) : ocSum r 0 = 65535 := by
  obtain ⟨-, h6, -, rfl⟩ := (echo4Reply_eq_some msg fl r).mp h
  generalize hd : msg.drop 4 = data
  have hdb : C15.Bytes data := by rw [← hd]; exact C15.bytes_drop 4 hb
  have hdl : 2 ≤ data.length ∧ data.length ≤ 65535 := by rw [← hd, List.length_drop]; omega
  -- the sender sums the payload, then the six-byte header with a zero checksum field: together, the message
  have hw : C15.wsum data = C15.wsum (data.take 2) + C15.wsum (data.drop 2) := by
    have := C15.wsum_append_even (data.take 2) (data.drop 2) (by rw [List.length_take]; omega)
    rwa [List.take_append_drop] at this
  have hcode : checksum ([0, 0, 0, 0] ++ data.take 2) (checksum (data.drop 2) 0) =
      C15.ocRep (0 + C15.wsum [0, 0] + C15.wsum data) := by
    rw [C15.checksum_zero _ (C15.bytes_drop 2 hdb) (by rw [List.length_drop]; omega),
      C15.checksum_rep _ _ (C15.bytes_append (by simp [C15.bytes_cons, C15.bytes_nil]) (C15.bytes_take 2 hdb))
        (by simp; omega), hw]
    simp only [List.cons_append, List.nil_append, C15.wsum_cons_cons, C15.wsum_nil]
    refine congrArg C15.ocRep ?_
    omega
  rw [hcode]
  exact C15.verifies_fill [0, 0] data 0 rfl (by simp [C15.bytes_cons, C15.bytes_nil]) hdb

theorem echo6Reply_eq_some (src dst msg : List Nat) (fl : Nat) (r : List Nat) :
    echo6Reply src dst msg fl = some r ↔ 8 ≤ fl ∧ 8 ≤ msg.length ∧ msg.getD 0 0 = 128 ∧
      r = [129, msg.getD 1 0] ++ be16 (65535 - checksum ([129, msg.getD 1 0, 0, 0] ++ (msg.drop 4).take 4)
            (checksum (msg.drop 8) (checksum [0, 0, 0, 58]
              (checksum (be32 (([129, msg.getD 1 0, 0, 0] ++ (msg.drop 4).take 4).length + (msg.drop 8).length))
                (checksum src (checksum dst 0)))))) ++ (msg.drop 4).take 4 ++ msg.drop 8 := by
  unfold echo6Reply
  simp only [List.length_take]
  by_cases h8 : 8 ≤ fl ∧ 8 ≤ msg.length
  · rw [getD_take msg fl 0 (by omega), getD_take msg fl 1 (by omega), if_neg (by omega)]
    by_cases ht : msg.getD 0 0 = 128
    · rw [bne_eq_false_iff_eq.mpr ht, if_neg Bool.false_ne_true, if_neg (by omega), Option.some.injEq]
      exact ⟨fun h => ⟨h8.1, h8.2, ht, h.symm⟩, fun h => h.2.2.2.symm⟩
    · rw [bne_iff_ne.mpr ht, if_pos rfl]
      exact ⟨fun h => (nomatch h), fun h => absurd h.2.2.1 ht⟩
  · constructor
    · intro h
      split at h
      · simp at h
      · split at h
        · simp at h
        · rw [if_pos (by omega)] at h; simp at h
    · intro h; exact absurd ⟨h.1, h.2.1⟩ h8

/-- ICMPv6: only type 128 is answered, with type 129 and identifier, sequence number and payload byte for byte -/
theorem echo6_mirrors (src dst msg : List Nat) (fl : Nat) (r : List Nat) (h : echo6Reply src dst msg fl = some r) :
    r.getD 0 0 = 129 ∧ r.drop 4 = msg.drop 4 ∧ msg.getD 0 0 = 128 := by
  obtain ⟨-, -, ht, rfl⟩ := (echo6Reply_eq_some src dst msg fl r).mp h
  refine ⟨rfl, ?_, ht⟩
  have : (msg.drop 4).take 4 ++ msg.drop 8 = msg.drop 4 := by
    have := List.take_append_drop 4 (msg.drop 4)
    rwa [List.drop_drop] at this
  rw [List.append_assoc, this]
  rfl

/-- ICMPv6: only echo requests whose first view holds the whole 8-byte echo header are answered, and the reply has the
request's length and code, whatever the split into views -/
theorem echo6_only_requests_same_length (src dst msg : List Nat) (fl : Nat) (r : List Nat)
    (h : echo6Reply src dst msg fl = some r) :
    8 ≤ msg.length ∧ 8 ≤ fl ∧ r.length = msg.length ∧ r.getD 1 0 = msg.getD 1 0 := by
  obtain ⟨hf, h8, -, rfl⟩ := (echo6Reply_eq_some src dst msg fl r).mp h
  refine ⟨h8, hf, ?_, rfl⟩
  simp [be16]
  omega

/-- worked instance: ident 0x1234 seq 1 payload "hi" -/
example : echo4Reply [8, 0, 0, 0, 0x12, 0x34, 0, 1, 104, 105] 10 =
    some [0, 0, 0x85, 0x61, 0x12, 0x34, 0, 1, 104, 105] := by decide
example : ocSum [0, 0, 0x85, 0x61, 0x12, 0x34, 0, 1, 104, 105] 0 = 65535 := by decide

end C13
