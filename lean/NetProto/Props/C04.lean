import NetProto.Props.TcpFrame
import NetProto.Props.TcpLemmas
/-! # C04 — the peer's window and MSS are respected; the stack's own window is honest

Model: `Model/Tcp.lean`, tied to the real stack by the trace correspondence of the TCP world.
Sender half: *no transmitted byte lies beyond the right edge of a window the peer has offered, and no segment is larger
than the peer's MSS or the MTU allows*.  Here for everything `sendData` transmits, against the window offered *now*
(`sendData_within`); `Props/C04Send.lean` closes it for every reachable state and every transmission, against the
rightmost edge the peer has ever offered. -/
namespace Props.C04
open Model.Tcp Props.TcpLemmas Props.TcpFrame

/-- at most `maxPayload` bytes, starting before the right edge `sndUna + sndWnd` (in sequence order) and not running
past it -/
def Within (s : Snd) (o : OutSeg) : Prop :=
  o.data = [] ∨ (o.data.length ≤ s.maxPayload ∧ lt o.seq (sndEnd s) = true ∧ o.data.length ≤ sizeS o.seq (sndEnd s))

/-- the limits the send loop works with stay fixed while it runs -/
def SameLimits (s s' : Snd) : Prop := s'.sndUna = s.sndUna ∧ s'.sndWnd = s.sndWnd ∧ s'.maxPayload = s.maxPayload

theorem SameLimits.trans {a b c : Snd} (h1 : SameLimits a b) (h2 : SameLimits b c) : SameLimits a c :=
  ⟨h2.1.trans h1.1, h2.2.1.trans h1.2.1, h2.2.2.trans h1.2.2⟩

theorem within_of_same {a b : Snd} (h : SameLimits a b) (o : OutSeg) (w : Within b o) : Within a o := by
  unfold Within sndEnd at *
  rw [h.1, h.2.1, h.2.2] at w
  exact w

theorem SameLimits.of_sendOnly {e e' : Ep} (h : SendOnly e e') : SameLimits e.snd e'.snd := by
  obtain ⟨_, _, _, _, _, _, _, _, _, rfl⟩ := h
  exact ⟨rfl, rfl, rfl⟩

theorem sendStep_within (e : Ep) (i : Nat) :
    (∀ e', sendStep e i = .stop e' → SameLimits e.snd e'.snd) ∧
    (∀ e' o, sendStep e i = .sent e' o → SameLimits e.snd e'.snd ∧ Within e.snd o) := by
  have so := sendStep_sendOnly e i
  refine ⟨fun e' h => .of_sendOnly (so.1 e' h), fun e' o h => ⟨.of_sendOnly (so.2 e' o h), ?_⟩⟩
  refine (sendStep_cases e i (A := fun _ => True) (B := fun _ o => Within e.snd o) trivial ?_ (fun _ _ _ _ _ _ _ _ _ => trivial) ?_).2 e' o h
  · intro pre x post y r _ _ _ hd hy hr
    rw [hr, Within, (emitAt_out _ _ _).1, hy]
    exact .inl ((assign_data x _).1.trans hd)
  · intro pre x post seg av y post' r _ _ _ _ _ hlt hav hy _ hr
    rw [hr, Within, (emitAt_out _ _ _).1, (emitAt_out _ _ _).2.1, hy]
    simp only [List.length_take]
    exact .inr ⟨by omega, hlt, by omega⟩

theorem sendData_limits (e : Ep) : SameLimits e.snd (sendData e).1.snd ∧ ∀ o ∈ (sendData e).2, Within e.snd o :=
  sendData_steps (R := fun e r => SameLimits e.snd r.1.snd ∧ ∀ o ∈ r.2, Within e.snd o)
    (T := fun e e' o => SameLimits e.snd e'.snd ∧ Within e.snd o) (I := fun _ _ => True)
    (fun h₁ h₂ => ⟨h₁.1.trans h₂.1, fun x hx =>
      (List.mem_cons.mp hx).elim (fun h => h ▸ h₁.2) fun h => within_of_same h₁.1 x (h₂.2 x h)⟩)
    (fun _ _ _ => ⟨⟨rfl, rfl, rfl⟩, fun _ h => nomatch h⟩)
    (fun e i _ => ⟨fun e' h => ⟨(sendStep_within e i).1 e' h, fun _ h => nomatch h⟩,
      fun e' o h => ⟨trivial, (sendStep_within e i).2 e' o h⟩⟩)
    (fun _ _ _ h => h) e trivial

/-- **C04 (sender)**: everything `sendData` transmits, new or sent again after a timeout, carries at most `maxPayload`
bytes and lies inside the window the peer offers at that moment -/
theorem sendData_within (e : Ep) : ∀ o ∈ (sendData e).2, Within e.snd o := (sendData_limits e).2

/-- `maxPayload` never exceeds the peer's MSS nor what the MTU leaves after the largest option block -/
theorem newEp_maxPayload (iss irs sndWnd mss : Nat) (sws : Int) (rcvWnd rws mtu rb sb : Nat) (ts : Bool) (rts : Nat) (sp : Bool) :
    let optLen := if ts && sp then 40 else if ts then 12 else if sp then 36 else 0
    let mp := (newEp iss irs sndWnd mss sws rcvWnd rws mtu rb sb ts rts sp).snd.maxPayload
    mp ≤ mss ∧ (mp ≤ mtu - 40 - optLen ∨ mp = 1) := by
  simp only [newEp]
  generalize (if (ts && sp) = true then 40 else if ts = true then 12 else if sp = true then 36 else 0) = k
  by_cases h : mtu - 20 - 20 - k ≥ mss
  · rw [if_pos h]; omega
  · rw [if_neg h]
    by_cases h0 : (mtu - 20 - 20 - k == 0) = true
    · rw [if_pos h0]; omega
    · rw [if_neg h0]; omega

theorem appWrite_within (e : Ep) (d : List Nat) : ∀ o ∈ (appWrite e d).2.2, Within e.snd o := by
  rcases appWrite_eq e d with ⟨r, h⟩ | ⟨v, _, _, _, _, h⟩ <;> rw [h]
  · exact fun _ h => nomatch h
  · exact sendData_within (queueWrite e v)

theorem timerEvent_within (e : Ep) : ∀ o ∈ (timerEvent e).2, Within e.snd o := by
  rcases timerEvent_eq e with ⟨_, h⟩ | ⟨_, _, h⟩ <;> rw [h]
  · exact fun _ h => nomatch h
  · intro o ho
    have hw := sendData_within { e with snd := rtoState e.snd } o ho
    obtain ⟨_, _, _, _, hr⟩ := rtoState_same e.snd
    rw [hr] at hw
    exact hw

/-- **C04 (receiver)**: the right edge `rcvAcc` promised to the peer never moves left: `getSendParams` leaves it or moves
it right to `rcvNxt + free buffer` -/
theorem getSendParams_edge_monotone (e : Ep)
    (ha : sizeS e.rcv.rcvNxt e.rcv.rcvAcc < 2147483648) (hn : receiveBufferAvailable e < 2147483648) :
    sizeS e.rcv.rcvNxt (getSendParams e).1.rcv.rcvAcc = max (sizeS e.rcv.rcvNxt e.rcv.rcvAcc) (receiveBufferAvailable e) := by
  have hn' : receiveBufferAvailable e % M = receiveBufferAvailable e := Nat.mod_eq_of_lt (by unfold M; omega)
  -- the new edge is beyond the old one iff the free buffer exceeds the promised window
  have key : lt e.rcv.rcvAcc (addS e.rcv.rcvNxt (receiveBufferAvailable e)) = true ↔
      sizeS e.rcv.rcvNxt e.rcv.rcvAcc < receiveBufferAvailable e := by
    rw [lt_iff, sizeS_trans _ e.rcv.rcvNxt, sizeS_swap e.rcv.rcvNxt, sizeS_addS _ _ (by omega)]
    omega
  unfold getSendParams
  simp only
  rw [hn']
  split
  · rename_i h
    rw [key] at h
    rw [sizeS_addS _ _ (by omega)]
    omega
  · rename_i h
    rw [key] at h
    omega

/-- the window field on the wire is the promised window shifted right by the scale ... -/
theorem getSendParams_window (e : Ep) :
    (getSendParams e).2.2 = (sizeS e.rcv.rcvNxt (getSendParams e).1.rcv.rcvAcc) >>> e.rcv.rcvWndScale := by
  unfold getSendParams
  simp only
  split <;> rfl

/-- ... so the edge the peer computes, `ack + (wnd << scale)`, is the promised edge rounded down to a multiple of 2^scale.
KNOWN FINDING (c04.advertised-edge-truncated-by-scale): because of the rounding the advertised edge can move
LEFT by up to 2^scale - 1 when `rcvNxt` advances by a non-multiple of 2^scale (F04). -/
theorem advertised_edge_truncation (x s : Nat) : (x >>> s) <<< s ≤ x ∧ x < (x >>> s) <<< s + 2 ^ s := by
  rw [Nat.shiftRight_eq_div_pow, Nat.shiftLeft_eq]
  have hp : 0 < 2 ^ s := Nat.two_pow_pos s
  have h1 := Nat.div_mul_le_self x (2 ^ s)
  have h2 := Nat.div_add_mod x (2 ^ s)
  have h3 := Nat.mod_lt x hp
  rw [Nat.mul_comm] at h2
  exact ⟨h1, by omega⟩

/-- the finding, concretely: scale 2; after one byte the advertised edge is 3 lower -/
theorem advertised_edge_moves_left_witness :
    let adv := fun (nxt acc : Nat) => nxt + ((acc - nxt) >>> 2) <<< 2
    adv 1000 66536 = 66536 ∧ adv 1001 66536 = 66533 := by decide

/-- **C04**: in-order data inside the advertised window is delivered: the receive list grows by exactly that segment's
bytes first (segments parked earlier may follow) -/
theorem inorder_in_window_delivered (e : Ep) (seg : InSeg)
    (hc : e.rcv.closed = false) (hseq : seg.seq = e.rcv.rcvNxt) (hl : 0 < seg.data.length)
    (hw : seg.data.length ≤ sizeS e.rcv.rcvNxt e.rcv.rcvAcc)
    (hlim : sizeS e.rcv.rcvNxt e.rcv.rcvAcc < 2147483648) (hfin : has seg.flags fFin = false) :
    ∃ t, (rcvHandleSegment e seg).1.rcvList = e.rcvList ++ [seg.data] ++ t := by
  have hacc : acceptable e.rcv seg.seq seg.data.length = true := by
    unfold acceptable
    simp only
    split
    · rename_i h; simp at h; omega
    · rw [hseq, Bool.or_eq_true]; left
      rw [inWindow_iff, sizeS_self]
      omega
  have htrim : trimToNew e.rcv seg.seq seg.data = some (seg.seq, seg.data) := by
    unfold trimToNew
    have h1 : inWindow e.rcv.rcvNxt seg.seq seg.data.length = true := by
      rw [hseq, inWindow_iff, sizeS_self]; omega
    have h2 : lt seg.seq e.rcv.rcvNxt = false := by
      rw [hseq]
      cases h : lt e.rcv.rcvNxt e.rcv.rcvNxt
      · rfl
      · rw [lt_iff, sizeS_self] at h; omega
    simp [hl, h1, h2]
  have hcons : (consumeSegment e seg.flags seg.seq seg.data).2.1 = true ∧
      (consumeSegment e seg.flags seg.seq seg.data).1.rcvList = e.rcvList ++ [seg.data] := by
    unfold consumeSegment
    rw [htrim]
    simp [hfin, advanceRcv, deliver, hl]
  unfold rcvHandleSegment
  simp only [hc, Bool.false_eq_true, ↓reduceIte, hacc, Bool.not_true, hcons.1]
  obtain ⟨t, ht⟩ := (drainPending_rcvOnly _ _ _ _
    ⟨.refl _, (consumeSegment_rcvOnly e seg.flags seg.seq seg.data).out, [], (List.append_nil _).symm⟩).app
  exact ⟨t, by rw [ht, hcons.2]⟩

/-- **C04**: data wholly outside the window is never delivered -/
theorem outside_window_not_delivered (e : Ep) (seg : InSeg)
    (h : acceptable e.rcv seg.seq seg.data.length = false) : (rcvHandleSegment e seg).1.rcvList = e.rcvList := by
  unfold rcvHandleSegment
  split
  · rfl
  · simp only [h, Bool.not_false, ↓reduceIte]
    exact (sendAck_rcvSame e).1

/-- **C04**: when reads reopen a window that was advertised as closed, an ACK announcing the new window goes out at once
(`notifyNonZeroReceiveWindow` → `nonZeroWindow`) -/
theorem window_reopens_on_read (e : Ep) (v : List Nat) (rest : List (List Nat))
    (hs : e.state = .connected) (hd : e.done = false) (hl : e.rcvList = v :: rest) (hu : e.rcvBufUsed ≠ 0)
    (hz : zeroReceiveWindow e e.rcvBufUsed = true)
    (hnz : zeroReceiveWindow (popRead e v rest) (popRead e v rest).rcvBufUsed = false)
    (hadv : (sizeS e.rcv.rcvNxt e.rcv.rcvAcc) >>> e.rcv.rcvWndScale = 0) :
    ∃ o, (appRead e).2.2 = [o] ∧ o.flags = fAck ∧ (appRead e).2.1 = .ok v := by
  have hd1 : (popRead e v rest).done = false := hd
  have hadv1 : (sizeS (popRead e v rest).rcv.rcvNxt (popRead e v rest).rcv.rcvAcc) >>> (popRead e v rest).rcv.rcvWndScale = 0 := hadv
  unfold appRead
  simp only [hs, hl]
  simp [hu, hz, hnz, hd1, hadv1]
  exact (sendSegment_out (popRead e v rest) [] fAck (popRead e v rest).snd.sndNxt).2.2.1

/-- non-vacuity: a sender whose next segment is cut to the window -/
example :
    let s : Snd := { sndUna := 100, sndNxt := 100, sndNxtList := 108, sndWnd := 5, maxPayload := 1460, maxSentAck := 1,
                     writeList := [{ data := [1, 2, 3, 4, 5, 6, 7, 8] }] }
    let e : Ep := { snd := s, rcv := { rcvNxt := 1, rcvAcc := 1000, pendingBufSize := 100 }, rcvBufSize := 1000, sndBufSize := 1000 }
    ((sendData e).2.map (·.data)) = [[1, 2, 3, 4, 5]] := by decide

end Props.C04
