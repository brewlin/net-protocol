import NetProto.Props.TcpFrame
import NetProto.Props.TcpLemmas
import NetProto.Generated.Consts
import NetProto.Generated.Shapes
/-! # C05 — loss recovery is prompt and the congestion window is obeyed

Model: `Model/Tcp.lean`, tied to the real stack by the trace correspondence of the TCP world; constants and the
statements of the timeout / window arithmetic are regenerated from the source on every run (`Gen.Consts`, `Gen.Shapes`).
Reno bound: *the number of segments in flight never exceeds 10 plus one per segment acknowledged or duplicate ACK
received so far*.  Here the per-event facts it rests on: the gate `outstanding < cwnd` (`sendData_gate`), the initial
window (`initial_window`), `Update(n)` raises window-plus-carry by at most `n` (`renoUpdate_pot`), a timeout collapses it
to 1 (`rtoState_window`).  The accumulation over a whole history is `Props/C05Bound.lean`. -/
namespace Props.C05
open Model.Tcp Props.TcpLemmas Props.TcpFrame

/-- potential: the window plus the whole windows' worth of acknowledgements already counted towards the next increase
(`sndCAAckCount / sndCwnd`: 0 after every congestion-avoidance step, but not after the window has been cut while the
count stayed) -/
def pot (s : Snd) : Nat := s.cwnd + s.caAck / s.cwnd

theorem add_div_le (a n c : Nat) (hc : 0 < c) : (a + n) / c ≤ a / c + n := by
  rw [Nat.div_le_iff_le_mul_add_pred hc]
  have h1 : a ≤ c * (a / c) + (c - 1) := by
    have := Nat.div_add_mod a c
    have := Nat.mod_lt a hc
    omega
  have h2 : c * (a / c + n) = c * (a / c) + c * n := Nat.mul_add _ _ _
  have h3 : n ≤ c * n := Nat.le_mul_of_pos_left n hc
  omega

theorem renoCA_spec (s : Snd) (n : Nat) (hc : 0 < s.cwnd) :
    pot (renoCA s n) ≤ pot s + n ∧ 0 < (renoCA s n).cwnd ∧ (renoCA s n).caAck < (renoCA s n).cwnd := by
  have hd := add_div_le s.caAck n s.cwnd hc
  rw [renoCA_eq]
  unfold pot
  split
  · have hpos : 0 < s.cwnd + (s.caAck + n) / s.cwnd := Nat.add_pos_left hc _
    have hm := Nat.mod_lt (s.caAck + n) hpos
    simp only
    rw [Nat.div_eq_of_lt hm]
    generalize (s.caAck + n) % (s.cwnd + (s.caAck + n) / s.cwnd) = m at *
    generalize (s.caAck + n) / s.cwnd = q at *
    generalize s.caAck / s.cwnd = q0 at *
    omega
  · simp only
    generalize (s.caAck + n) / s.cwnd = q at *
    generalize s.caAck / s.cwnd = q0 at *
    omega

theorem renoUpdate_spec (s : Snd) (n : Nat) (hc : 0 < s.cwnd) :
    pot (renoUpdate s n) ≤ pot s + n ∧ 0 < (renoUpdate s n).cwnd ∧
    ((renoUpdate s n).caAck < (renoUpdate s n).cwnd ∨ (renoUpdate s n).caAck = s.caAck) := by
  have ca : ∀ x k, 0 < x.cwnd → pot x + k ≤ pot s + n →
      pot (renoCA x k) ≤ pot s + n ∧ 0 < (renoCA x k).cwnd ∧ ((renoCA x k).caAck < (renoCA x k).cwnd ∨ (renoCA x k).caAck = s.caAck) :=
    fun x k hx hp => have h := renoCA_spec x k hx; ⟨Nat.le_trans h.1 hp, h.2.1, .inl h.2.2⟩
  unfold renoUpdate
  split
  · rename_i hss
    rw [renoSlowStart_eq]
    split
    · -- the window reaches `ssthresh`: the count restarts there
      rename_i hcap
      have hlt : s.cwnd < s.ssthresh := by simpa [hcap.1] using hss
      have hp : pot { s with cwnd := s.ssthresh, caAck := 0 } + (n - (s.ssthresh - s.cwnd)) ≤ pot s + n := by
        simp only [pot, Nat.zero_div]
        generalize s.caAck / s.cwnd = q0
        omega
      have hpos : 0 < s.ssthresh := by omega
      simp only
      split
      · exact ⟨by omega, hpos, .inl hpos⟩
      · exact ca _ _ hpos hp
    · simp only [beq_self_eq_true, ↓reduceIte, pot]
      have := Nat.div_le_div_left (a := s.caAck) (Nat.le_add_right s.cwnd n) hc
      generalize s.caAck / s.cwnd = q0 at *
      generalize s.caAck / (s.cwnd + n) = q1 at *
      exact ⟨by omega, by omega, .inr trivial⟩
  · exact ca s n hc (Nat.le_refl _)

/-- **C05**: `renoState.Update(n)` raises the potential, hence the window, by at most `n`, the number of segments just
acknowledged -/
theorem renoUpdate_pot (s : Snd) (n : Nat) (hc : 0 < s.cwnd) : pot (renoUpdate s n) ≤ pot s + n ∧ 0 < (renoUpdate s n).cwnd :=
  ⟨(renoUpdate_spec s n hc).1, (renoUpdate_spec s n hc).2.1⟩

theorem pot_ge_cwnd (s : Snd) : s.cwnd ≤ pot s := Nat.le_add_right _ _

/-- number of data-carrying segments -/
def dataCount (l : List OutSeg) : Nat := (l.filter (fun o => o.data.length != 0)).length

theorem dataCount_append (a b : List OutSeg) : dataCount (a ++ b) = dataCount a + dataCount b := by
  simp [dataCount, List.filter_append]

theorem dataCount_one (o : OutSeg) : dataCount [o] = if o.data = [] then 0 else 1 := by
  simp only [dataCount, List.filter_cons, List.filter_nil]
  cases o.data <;> rfl

/-- What a stretch of the send loop does to the count in flight; the last clause needs a segment size that is not zero,
the third is what remains without it. -/
def Flight (e : Ep) (r : Ep × List OutSeg) : Prop :=
  r.1.snd.cwnd = e.snd.cwnd ∧ r.1.snd.maxPayload = e.snd.maxPayload ∧
  (r.1.snd.outstanding ≤ e.snd.outstanding ∨ r.1.snd.outstanding ≤ e.snd.cwnd) ∧
  (0 < e.snd.maxPayload → r.1.snd.outstanding = e.snd.outstanding + dataCount r.2 ∧
    (0 < dataCount r.2 → r.1.snd.outstanding ≤ e.snd.cwnd))

theorem Flight.nil (e e' : Ep) (h1 : e'.snd.cwnd = e.snd.cwnd) (h2 : e'.snd.maxPayload = e.snd.maxPayload)
    (h3 : e'.snd.outstanding = e.snd.outstanding) : Flight e (e', []) :=
  ⟨h1, h2, .inl (Int.le_of_eq h3), fun _ => ⟨by rw [h3]; simp [dataCount], fun h => absurd h (by simp [dataCount])⟩⟩

theorem Flight.seq {e e₁ : Ep} {o : OutSeg} {r : Ep × List OutSeg} (h₁ : Flight e (e₁, [o])) (h₂ : Flight e₁ r) :
    Flight e (r.1, [o] ++ r.2) := by
  obtain ⟨a1, a2, a3, a4⟩ := h₁
  obtain ⟨b1, b2, b3, b4⟩ := h₂
  simp only at a1 a2 a3 a4
  refine ⟨b1.trans a1, b2.trans a2, ?_, fun hmp => ?_⟩ <;> dsimp only
  · rw [a1] at b3
    rcases b3 with b3 | b3
    · exact a3.imp (Int.le_trans b3) (Int.le_trans b3)
    · exact .inr b3
  · obtain ⟨a5, a6⟩ := a4 hmp
    obtain ⟨b5, b6⟩ := b4 (a2 ▸ hmp)
    rw [a1] at b6
    rw [dataCount_append]
    refine ⟨by rw [b5, a5]; omega, fun hp => ?_⟩
    -- if nothing more was sent after `o`, `o` itself was the data segment
    by_cases hr : 0 < dataCount r.2
    · exact b6 hr
    · have := a6 (by omega)
      omega

theorem sendStep_flight (e : Ep) (i : Nat) :
    (∀ e', sendStep e i = .stop e' → Flight e (e', [])) ∧ (∀ e' o, sendStep e i = .sent e' o → Flight e (e', [o])) := by
  refine sendStep_cases e i (A := fun e' => Flight e (e', [])) (B := fun e' o => Flight e (e', [o]))
    (.nil _ _ rfl rfl rfl) ?_ (fun _ _ _ _ _ _ _ _ _ => .nil _ _ rfl rfl rfl) ?_
  · intro pre x post y r _ _ _ hd hy hr
    obtain ⟨_, _, _, h⟩ := emitAt_eq { e with snd := { e.snd with writeList := pre ++ y :: post } } y (addS y.seq 1)
    have ho : r.2.data = [] := by rw [hr, (emitAt_out _ _ _).1, hy]; exact (assign_data x _).1.trans hd
    rw [← hr] at h
    rw [h]
    exact ⟨rfl, rfl, .inl (Int.le_refl _), fun _ => ⟨by simp [dataCount_one, ho], fun hp => absurd hp (by simp [dataCount_one, ho])⟩⟩
  · intro pre x post seg av y post' r _ _ hg hne hseg hlt hav hy _ hr
    obtain ⟨_, _, _, h⟩ := emitAt_eq { e with snd := { e.snd with writeList := pre ++ y :: post', outstanding := e.snd.outstanding + 1 } } y
      (addS y.seq y.data.length)
    have ho : 0 < e.snd.maxPayload → r.2.data ≠ [] := by
      intro hmp hnil
      have hl : (seg.data.take av).length = 0 := by
        rw [← List.length_eq_zero_iff] at hnil
        rw [hr, (emitAt_out _ _ _).1, hy] at hnil
        exact hnil
      have hs : seg.data.length ≠ 0 := by rw [hseg, (assign_data x _).1]; exact fun h => hne (List.eq_nil_of_length_eq_zero h)
      rw [lt_iff] at hlt
      rw [List.length_take] at hl
      omega
    rw [← hr] at h
    rw [h]
    refine ⟨rfl, rfl, .inr (by show e.snd.outstanding + 1 ≤ (e.snd.cwnd : Int); omega), fun hmp => ?_⟩
    rw [dataCount_one, if_neg (ho hmp)]
    exact ⟨rfl, fun _ => by show e.snd.outstanding + 1 ≤ (e.snd.cwnd : Int); omega⟩

/-- **C05 (the send gate)**: `sendData` leaves the count in flight where it was or within the window, and raises it by
exactly the number of data segments it puts on the wire -/
theorem sendData_flight (e : Ep) : Flight e (sendData e) :=
  sendData_steps (T := fun e e' o => Flight e (e', [o])) (I := fun _ _ => True) Flight.seq (fun _ _ _ => .nil _ _ rfl rfl rfl)
    (fun e i _ => ⟨(sendStep_flight e i).1, fun e' o h => ⟨trivial, (sendStep_flight e i).2 e' o h⟩⟩)
    (fun _ _ _ h => h) e trivial

/-- **C05**: `sendData` puts at most `cwnd - outstanding` data segments on the wire, and leaves no more than
`cwnd` outstanding if it sent any -/
theorem sendData_gate (e : Ep) (hmp : 0 < e.snd.maxPayload) :
    (sendData e).1.snd.outstanding = e.snd.outstanding + dataCount (sendData e).2 ∧
    (0 < dataCount (sendData e).2 → (sendData e).1.snd.outstanding ≤ e.snd.cwnd) :=
  (sendData_flight e).2.2.2 hmp

/-- **C05**: a fresh connection starts with a window of `InitialCwnd` = 10 segments and nothing outstanding -/
theorem initial_window (iss irs sndWnd mss : Nat) (sws : Int) (rcvWnd rws mtu rb sb : Nat) (ts : Bool) (rts : Nat) (sp : Bool) :
    (newEp iss irs sndWnd mss sws rcvWnd rws mtu rb sb ts rts sp).snd.cwnd = Gen.Consts.tcp_InitialCwnd ∧
    (newEp iss irs sndWnd mss sws rcvWnd rws mtu rb sb ts rts sp).snd.outstanding = 0 ∧
    Gen.Consts.tcp_InitialCwnd = 10 := ⟨rfl, rfl, rfl⟩

/-- **C05**: a retransmission timeout collapses the window to one segment with nothing counted outstanding ... -/
theorem rtoState_window (s : Snd) : (rtoState s).cwnd = 1 ∧ (rtoState s).outstanding = 0 ∧ (rtoState s).writeNext = 0 ∧
    (rtoState s).maxPayload = s.maxPayload ∧ (rtoState s).writeList = s.writeList := by
  obtain ⟨_, _, _, _, h⟩ := rtoState_same s
  rw [h]
  exact ⟨rfl, rfl, rfl, rfl, rfl⟩

/-- ... so at most one data segment is sent per timeout -/
theorem timeout_sends_at_most_one (e : Ep) (hmp : 0 < e.snd.maxPayload) : dataCount (timerEvent e).2 ≤ 1 := by
  rcases timerEvent_eq e with ⟨_, h⟩ | ⟨_, _, h⟩ <;> rw [h]
  · exact Nat.zero_le 1
  · have w := rtoState_window e.snd
    have g := sendData_gate { e with snd := rtoState e.snd } (w.2.2.2.1 ▸ hmp)
    simp only [w.1, w.2.1] at g
    by_cases hp : 0 < dataCount (sendData { e with snd := rtoState e.snd }).2
    · have := g.2 hp
      omega
    · omega

theorem inRange_iff (v a b : Nat) : inRange v a b = true ↔ sizeS a v < sizeS a b := Props.TcpLemmas.inRange_iff v a b

/-- **C05**: the third duplicate ACK (same number as `sndUna`, no payload, same window, data outstanding, not from before
the last recovery) makes `checkDuplicateAck` ask for a retransmission and enter fast recovery; the first and second
only count -/
theorem third_dupack_triggers (s : Snd) (ack wnd : Nat)
    (hfr : s.fr.active = false) (hack : ack = s.sndUna) (hw : s.sndWnd = wnd) (hnx : ack ≠ s.sndNxt)
    (hlast : lt s.fr.last ack = true) :
    (s.dupAck + 1 < Gen.Consts.tcp_nDupAckThreshold →
        (checkDuplicateAck s ack 0 wnd).2 = false ∧ (checkDuplicateAck s ack 0 wnd).1.dupAck = s.dupAck + 1) ∧
    (s.dupAck + 1 ≥ Gen.Consts.tcp_nDupAckThreshold →
        (checkDuplicateAck s ack 0 wnd).2 = true ∧ (checkDuplicateAck s ack 0 wnd).1.fr.active = true ∧
        (checkDuplicateAck s ack 0 wnd).1.writeList = s.writeList ∧ (checkDuplicateAck s ack 0 wnd).1.sndUna = s.sndUna ∧
        (checkDuplicateAck s ack 0 wnd).1.sndNxt = s.sndNxt) := by
  have hc : Gen.Consts.tcp_nDupAckThreshold = 3 := rfl
  have h := cda_case s ack 0 wnd
  generalize checkDuplicateAck s ack 0 wnd = c at h ⊢
  rw [hc]
  cases h with
  | outside ha | leave ha | other ha | inflate ha | partialAck ha => rw [hfr] at ha; cases ha
  | reset _ h =>
    rcases h with h | h | h | h
    · exact absurd hack h
    · exact absurd rfl h
    · exact absurd hw h
    · exact absurd h hnx
  | count _ _ _ _ _ hn => exact ⟨fun _ => ⟨rfl, rfl⟩, fun h => absurd hn (by omega)⟩
  | stale _ _ _ _ _ _ hl => rw [hlast] at hl; cases hl
  | enter _ _ _ _ _ hn => exact ⟨fun h => absurd h (by omega), fun _ => ⟨rfl, rfl, rfl, rfl, rfl⟩⟩

/-- ... and the retransmission is the earliest unacknowledged segment, sent before anything else -/
theorem fast_retransmit_sends_head (e : Ep) (seg : InSeg) (wnd : Nat) (ts : Model.Header.TCPOpts) (hd : WSeg) (tl : List WSeg)
    (hfr : e.snd.fr.active = false) (hack : seg.ack = e.snd.sndUna) (hlen : seg.logicalLen = 0)
    (hw : e.snd.sndWnd = wnd) (hnx : seg.ack ≠ e.snd.sndNxt) (hlast : lt e.snd.fr.last seg.ack = true)
    (hcount : e.snd.dupAck + 1 ≥ Gen.Consts.tcp_nDupAckThreshold) (hwl : e.snd.writeList = hd :: tl) :
    ∃ o rest, (sndHandleSegment e seg wnd ts).2 = o :: rest ∧ o.seq = hd.seq ∧ o.data = hd.data := by
  have hsnd : (updateRecentTimestamp e ts.tsVal e.snd.maxSentAck seg.seq).snd = e.snd := by
    unfold updateRecentTimestamp; split <;> rfl
  have t := (third_dupack_triggers e.snd seg.ack wnd hfr hack hw hnx hlast).2 hcount
  have hnr : inRange (subS seg.ack 1) (checkDuplicateAck e.snd seg.ack 0 wnd).1.sndUna (checkDuplicateAck e.snd seg.ack 0 wnd).1.sndNxt = false := by
    rw [t.2.2.2.1, t.2.2.2.2, hack]; exact dupack_not_new _ _
  have hp : ∃ o, (sndPrepare e seg wnd ts).2 = [o] ∧ o.seq = hd.seq ∧ o.data = hd.data := by
    unfold sndPrepare
    simp only [hsnd, hlen, t.1, ↓reduceIte, hnr, Bool.false_eq_true]
    unfold resendSegment
    simp only [t.2.2.1, hwl, List.head?_cons]
    exact ⟨_, rfl, (sendSegment_out _ _ _ _).2.1, (sendSegment_out _ _ _ _).1⟩
  obtain ⟨o, ho, h1, h2⟩ := hp
  unfold sndHandleSegment
  exact ⟨o, _, by rw [ho]; rfl, h1, h2⟩

/-! The trace model is timing-free; the arithmetic of the timeout (nanoseconds) is modelled separately and pinned,
statement by statement, to the regenerated source shapes (`rto_statements_pinned`). -/

def minRTO : Nat := Gen.Consts.tcp_minRTO
def initialRTO : Nat := 1000000000
/-- `updateRTO`'s last three statements -/
def rtoAfterSample (srtt rttvar : Nat) : Nat := if srtt + 4 * rttvar < minRTO then minRTO else srtt + 4 * rttvar
/-- `retransmitTimerExpired` -/
def rtoAfterExpiry (rto : Nat) : Nat := rto * 2

theorem rto_statements_pinned :
    Gen.Shapes.tcp_rto_expired = ["if v0.rto >= 60*time.Second", "v0.rto *= 2"] ∧
    Gen.Shapes.tcp_rto_update = ["v0.rto = v0.rtt.srtt + 4*v0.rtt.rttvar", "if v0.rto < minRTO", "v0.rto = minRTO"] ∧
    Gen.Shapes.tcp_rtt_sample = ["if !v0.ep.sendTSOk && v0.rttMeasureSeqNum.LessThan(v1.ackNumber) && !v0.sndNxt.LessThan(v1.ackNumber)", "v0.updateRTO(time.Now().Sub(v0.rttMeasureTime))", "v0.rttMeasureSeqNum = v0.sndNxt"] ∧
    Gen.Consts.tcp_minRTO = 200000000 :=
  ⟨rfl, rfl, rfl, rfl⟩

/-- the statements the congestion model mirrors -/
theorem congestion_statements_pinned :
    Gen.Shapes.tcp_send_gate = ["for v2 != nil && v0.outstanding < v0.sndCwnd", "v0.outstanding++"] ∧
    Gen.Shapes.tcp_cwnd_ss = ["v2 := v0.s.sndCwnd + v1", "if v2 >= v0.s.sndSsthresh", "v2 = v0.s.sndSsthresh", "v1 -= v2 - v0.s.sndCwnd", "v0.s.sndCwnd = v2"] ∧
    Gen.Shapes.tcp_cwnd_ca = ["v0.s.sndCAAckCount += v1", "if v0.s.sndCAAckCount >= v0.s.sndCwnd", "v0.s.sndCwnd += v0.s.sndCAAckCount / v0.s.sndCwnd", "v0.s.sndCAAckCount = v0.s.sndCAAckCount % v0.s.sndCwnd"] ∧
    Gen.Shapes.tcp_cwnd_rto = ["v0.s.sndCwnd = 1"] ∧
    Gen.Shapes.tcp_ssthresh = ["v0.s.sndSsthresh = v0.s.outstanding / 2", "if v0.s.sndSsthresh < 2", "v0.s.sndSsthresh = 2"] ∧
    Gen.Shapes.tcp_cwnd_dupack = ["v0.dupAckCount = 0", "v0.dupAckCount = 0", "v0.dupAckCount++", "if v0.dupAckCount < nDupAckThreshold", "v0.dupAckCount = 0", "v0.dupAckCount = 0"] :=
  ⟨rfl, rfl, rfl, rfl, rfl, rfl⟩

/-- timeouts the sender can ever use: the initial one, one computed from a sample, or a doubled one -/
inductive RtoReach : Nat → Prop
  | init : RtoReach initialRTO
  | sample (srtt rttvar : Nat) : RtoReach (rtoAfterSample srtt rttvar)
  | expiry {r : Nat} : RtoReach r → RtoReach (rtoAfterExpiry r)

/-- **C05**: the timeout is never below 200 ms ... -/
theorem rto_at_least_200ms {r : Nat} (h : RtoReach r) : 200000000 ≤ r := by
  induction h with
  | init => decide
  | sample srtt rttvar =>
    unfold rtoAfterSample minRTO
    have : Gen.Consts.tcp_minRTO = 200000000 := rfl
    split <;> omega
  | expiry _ ih => unfold rtoAfterExpiry; omega

/-- ... and exactly doubles on every expiry -/
theorem rto_doubles (r : Nat) : rtoAfterExpiry r = 2 * r := by unfold rtoAfterExpiry; omega

/-- non-vacuity of `fast_retransmit_sends_head` -/
example :
    let s : Snd := { sndUna := 100, sndNxt := 300, sndNxtList := 300, sndWnd := 1000, maxPayload := 100, maxSentAck := 1,
                     dupAck := 2, fr := { last := 50 }, outstanding := 2,
                     writeList := [{ seq := 100, flags := 24, data := List.replicate 100 7 }, { seq := 200, flags := 24, data := List.replicate 100 8 }],
                     writeNext := 2 }
    (checkDuplicateAck s 100 0 1000).2 = true := by decide

end Props.C05
